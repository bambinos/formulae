import FormulaeModel.Proofs.TransformsBS
import FormulaeModel.Proofs.TransformsPartition
import FormulaeModel.Proofs.TransformsPolySpec
import FormulaeModel.Generated.Tables
/-
C14.  Statements use Model/Transforms, Spec/C14, from `Proofs/` the definitions `quantOf`,
`Poly.col`, `Poly.MemoOK`, `Poly.Complete`, and (`C14_poly_monic`) Mathlib's `Polynomial ℚ`.
-/
namespace FormulaeModel.C14
open FormulaeModel.Transforms

/-- On non-empty training data `center(x)` is a vector of finite values with sum (hence mean)
zero.  (On an empty array numpy's mean is NaN: `Center.call init [] = (⟨true, none⟩, .vals [])`.) -/
theorem C14_center_mean (x : List Rat) (h : x ≠ []) :
    ∃ out, (Center.call Center.init x).2 = .vals out ∧ out.length = x.length ∧ sum out = 0 ∧
      Spec.C14.meanZero 0 out = true := by
  refine ⟨x.map (fun v => v - sum x / (x.length : Rat)), ?_, by simp, sum_centered h, ?_⟩
  · rw [Center.call_init, mean?_ne_nil h]; rfl
  · simp [Spec.C14.meanZero, sum_eq_spec, sum_centered h, Spec.C14.absR]

example : (Center.call Center.init [1, 2, 6]).2 = .vals [-2, -1, 3] := by decide +kernel

/-- Histories: after the first call (on any data, even empty) the state never changes again, and
every later call on any data `y` returns `y - mean(x_first)`. -/
theorem C14_center_affine (x : List Rat) (ys : List (List Rat)) :
    Center.run Center.init (x :: ys)
      = (⟨true, mean? x⟩, (x :: ys).map (Center.apply (mean? x))) :=
  Center.run_init x ys

/-- … in particular for non-empty training data every output of the history is the shift by the
training mean. -/
theorem C14_center_affine_vals (x : List Rat) (h : x ≠ []) (ys : List (List Rat)) :
    (Center.run Center.init (x :: ys)).2
      = (x :: ys).map (fun y => Out.vals (y.map (fun v => v - sum x / (x.length : Rat)))) := by
  rw [C14_center_affine, mean?_ne_nil h]
  simp [Center.apply]

/-- The (input, output) pairs of the history above have this form; the two facts are not combined. -/
theorem sameShift_of_shift (m : Rat) (pairs : List (Rat × Rat)) (h : ∀ p ∈ pairs, p.2 = p.1 - m) :
    Spec.C14.sameShift 0 pairs = true := by
  cases pairs with
  | nil => rfl
  | cons p0 rest =>
    obtain ⟨x0, o0⟩ := p0
    simp only [Spec.C14.sameShift, List.all_eq_true]
    intro p hp
    obtain ⟨x1, o1⟩ := p
    have h0 := h (x0, o0) (by simp)
    have h1 := h (x1, o1) hp
    simp only at h0 h1
    subst h0 h1
    simp [Spec.C14.close, Spec.C14.absR]

/-- the state is frozen along any history (for any state with `paramsSet`) -/
theorem C14_center_state_frozen (s : Center.St) (h : s.paramsSet = true) (ys : List (List Rat)) :
    (Center.run s ys).1 = s := by rw [Center.run_frozen s h]

example : (Center.run Center.init [[1, 2, 6], [10], [0, 3]]).2
    = [.vals [-2, -1, 3], .vals [7], .vals [-3, 0]] := by decide +kernel

/-- Training data with at least two distinct values: the stored variance `v = std²` is positive,
every call of the history (the first and all later ones, on any data) returns the cells
`(t - m)/√v` with the *training* mean and variance, the state never changes after the first call,
and on the training data `Σ (t - m) = 0`, `Σ (t - m)² = n·v` (mean zero, unit population
standard deviation of the vector `(t - m)/√v`). -/
theorem C14_scale (x : List Rat) (a b : Rat) (ha : a ∈ x) (hb : b ∈ x) (hab : a ≠ b)
    (ys : List (List Rat)) :
    ∃ m v : Rat, 0 < v ∧
      Scale.run Scale.init (x :: ys)
        = (⟨true, some m, some v⟩, (x :: ys).map (fun y => y.map (fun t => Cell.quot (t - m) v))) ∧
      Spec.C14.standardizedExact (x.map (fun t => t - m)) v = true := by
  have hne : x ≠ [] := List.ne_nil_of_mem ha
  have hv := var_pos ha hb hab
  refine ⟨sum x / (x.length : Rat), _, hv, ?_, ?_⟩
  · rw [Scale.run_init, mean?_ne_nil hne, var?_ne_nil hne]
    simp only [Scale.apply, divSqrt_pos _ hv]
  · simp only [Spec.C14.standardizedExact, sum_eq_spec, Spec.C14.len, List.length_map,
      List.map_map, Bool.and_eq_true, decide_eq_true_eq]
    exact ⟨⟨hv, sum_centered hne⟩, (mul_div_cancel₀ _ (length_cast_ne_zero hne)).symm⟩

example : Scale.run Scale.init [[1, 3], [5]]
    = (⟨true, some 2, some 1⟩, [[.quot (-1) 1, .quot 1 1], [.quot 3 1]]) := by decide +kernel

/-- Constant non-empty training data: the variance is 0, no exception is raised, the training
output is all NaN (0/0) and later data give NaN / ±inf (numpy only warns). -/
theorem C14_scale_constant (x : List Rat) (c : Rat) (hne : x ≠ []) (h : ∀ v ∈ x, v = c)
    (ys : List (List Rat)) :
    Scale.run Scale.init (x :: ys)
      = (⟨true, some c, some 0⟩,
         x.map (fun _ => Cell.nan) ::
         ys.map (fun y => y.map (fun t =>
           if t = c then Cell.nan else if c < t then Cell.posInf else Cell.negInf))) := by
  obtain ⟨hm, hs⟩ := var_const hne h
  rw [Scale.run_init, mean?_ne_nil hne, var?_ne_nil hne, hm, hs, zero_div, List.map_cons]
  simp only [Scale.apply, divSqrt_zero, sub_eq_zero, sub_pos]
  congr 2
  exact List.map_congr_left fun v hv => if_pos (h v hv)

/-- Accepted parameters: every row of `bs` has `df` columns when `df` is given (an integer), and
`len(knots) + degree` (+1 with intercept) columns when only knots are given. -/
theorem C14_bs_columns (x : List Rat) (a : BsArgs) (p : BsParams)
    (h : bsInitialize x a = .ok p) (v : Rat) :
    (∀ f : Int, a.df = .int f →
        0 ≤ f ∧ (bsRow p v).length = Spec.C14.expectedCols (some f.toNat) 0 p.degree p.intercept) ∧
    (∀ l, a.df = .none → a.knots = .vec l →
        (bsRow p v).length = Spec.C14.expectedCols none l.length p.degree p.intercept) := by
  obtain ⟨A⟩ := bsInitialize_ok h
  rw [length_bsRow]
  constructor
  · intro f hf
    have hc := A.nCols_df hf
    exact ⟨hc ▸ Int.natCast_nonneg _, by rw [← hc]; exact (Int.toNat_natCast _).symm⟩
  · intro l _ hk
    have hin := A.hinner
    rw [hk] at hin
    rw [A.nCols, ← Option.some.inj hin]
    rfl

example : (bsInitialize [0, 1, 2, 3, 4] { df := .int 5 }).map bsNCols = .ok 5 := by decide +kernel
example : (bsInitialize [0, 1, 2, 3, 4] { knots := .vec [1, 2], degree := .int 2, intercept := true }).map
    bsNCols = .ok 5 := by decide +kernel

/-- Accepted ⇒ degree is an integer ≥ 0, the number of inner knots is a natural number matching
`df`, the knots are one-dimensional and lie within `[lower, upper]`, `lower ≤ upper`; the knot
vector is sorted, has `2(degree+1) + #inner` entries and is clamped at the bounds. -/
theorem C14_bs_validation (x : List Rat) (a : BsArgs) (p : BsParams)
    (h : bsInitialize x a = .ok p) :
    ∃ (z : Int) (lower upper : Rat) (inner : List Rat),
      a.degree = .int z ∧ 0 ≤ z ∧ p.degree = z.toNat ∧
      boundOr a.lower (min? x) = .ok lower ∧ boundOr a.upper (max? x) = .ok upper ∧
      lower ≤ upper ∧ (∀ k ∈ inner, lower ≤ k ∧ k ≤ upper) ∧
      (∀ n, a.knots ≠ .nested n) ∧ (a.df ≠ .float false) ∧
      (∀ f : Int, a.df = .int f →
        (inner.length : Int) = f - ((p.degree : Int) + 1) + (if a.intercept then 0 else 1)) ∧
      p.knots = sort (replicate2 lower upper (p.degree + 1) ++ inner) ∧
      p.knots.length = 2 * (p.degree + 1) + inner.length ∧
      tk p.knots p.degree = lower ∧ tk p.knots (p.knots.length - p.degree - 1) = upper := by
  obtain ⟨A⟩ := bsInitialize_ok h
  obtain ⟨_, _, hlo, hhi⟩ := A.clamped
  refine ⟨A.z, A.lower, A.upper, A.inner, A.hdeg, A.hz, A.hpdeg, A.hlo, A.hhi, A.hle, A.hin, ?_, ?_,
    fun f hf => A.inner_length_df hf, ?_, A.knots_length, hlo, hhi⟩
  · intro n hn
    have hin := A.hinner
    rw [hn] at hin
    cases hin
  · intro hf
    have := A.hdfty
    rw [hf] at this
    cases this
  · exact A.hknots

/-- Acceptance is exactly validity (`Spec.C14.validBsArgs`): every invalid combination is refused
and every valid one accepted — on non-empty data, for every `df` except the float `0.0`. -/
theorem C14_bs_validation_iff (b : Rat) (l : List Rat) (a : BsArgs) (hf : a.df ≠ .float true)
    (dmin dmax : Rat) (hmin : min? (b :: l) = some dmin) (hmax : max? (b :: l) = some dmax) :
    (∃ p, bsInitialize (b :: l) a = .ok p) ↔
      Spec.C14.validBsArgs dmin dmax (quantOf (b :: l)) a = true := by
  rw [toBool_iff, toBool_bsInitialize b l a hf dmin dmax hmin hmax]

/-- each invalid class is refused (instances of the equivalence, with the error class) -/
theorem C14_bs_refuses_invalid (b : Rat) (l : List Rat) (a : BsArgs) (hf : ∀ z, a.df ≠ .float z)
    (dmin dmax : Rat) (hmin : min? (b :: l) = some dmin) (hmax : max? (b :: l) = some dmax)
    (hinv : Spec.C14.validBsArgs dmin dmax (quantOf (b :: l)) a = false) :
    bsInitialize (b :: l) a = .error .value := by
  have hb := toBool_bsInitialize b l a (hf true) dmin dmax hmin hmax
  rw [hinv] at hb
  cases hr : bsInitialize (b :: l) a with
  | ok p => rw [hr] at hb; cases hb
  | error e => rw [bsInitialize_error_class b l a (hf true) e hr]

theorem C14_bs_refuses_float_df (x : List Rat) (a : BsArgs) (hd : a.df = .float false) :
    ∃ e, bsInitialize x a = .error e := by
  unfold bsInitialize
  cases checkDegree a.degree with
  | error e => exact ⟨e, rfl⟩
  | ok d =>
    simp only
    cases checkGiven a.df a.knots with
    | error e => exact ⟨e, rfl⟩
    | ok u => rw [hd]; exact ⟨_, rfl⟩

example : bsInitialize [0, 1, 2] { df := .int 2 } = .error .value := by decide +kernel
example : bsInitialize [0, 1, 2] { df := .int 4, degree := .nonInt } = .error .value := by decide +kernel
example : bsInitialize [0, 1, 2] { knots := .vec [3] } = .error .value := by decide +kernel
example : bsInitialize [0, 1, 2] { knots := .vec [1], lower := some 2, upper := some 1 } = .error .value := by
  decide +kernel

/-- The full statement "every non-integer `df` is refused" is false of the code: the float `0.0`
is falsy, passes `if df and not isinstance(df, int)`, and `bs(x, df=0.0, knots=[], degree=0)` is
accepted (finding KF-C14-DF-FLOAT-ZERO). -/
def C14_bs_float_df_Statement : Prop :=
  ∀ (x : List Rat) (a : BsArgs) (z : Bool), a.df = .float z → ∃ e, bsInitialize x a = .error e

def acceptsFloatZero : Bool :=
  match bsInitialize [0, 1, 2] { df := .float true, knots := .vec [], degree := .int 0 } with
  | .ok _ => true
  | .error _ => false

theorem C14_bs_float_df_counterexample : ¬ C14_bs_float_df_Statement := by
  intro h
  obtain ⟨e, he⟩ := h [0, 1, 2] { df := .float true, knots := .vec [], degree := .int 0 } true rfl
  have : acceptsFloatZero = true := by decide +kernel
  unfold acceptsFloatZero at this
  rw [he] at this
  cases this

/-- The contract of one row, for accepted parameters, at every `v` inside the boundary knots where
the knot interval selected by `splev` is not empty (`bsDegenerate = false`): the row has the
expected number of columns, is non-negative, and with `intercept = True` sums to one. -/
theorem C14_bs_partition_partial (x : List Rat) (a : BsArgs) (p : BsParams)
    (h : bsInitialize x a = .ok p) (v : Rat)
    (hlo : tk p.knots p.degree ≤ v) (hhi : v ≤ tk p.knots (p.knots.length - p.degree - 1))
    (hnd : bsDegenerate p.knots p.degree v = false) :
    (∀ c ∈ bsRow p v, 0 ≤ c) ∧ (p.intercept = true → sum (bsRow p v) = 1) ∧
    Spec.C14.bsRowHolds 0 p.intercept (tk p.knots p.degree)
      (tk p.knots (p.knots.length - p.degree - 1)) v (bsNCols p) (bsRow p v) = true := by
  obtain ⟨A⟩ := bsInitialize_ok h
  obtain ⟨hm, hlen, _, _⟩ := A.clamped
  obtain ⟨hnn, hsum⟩ := bsFullRow_partition p (mono_of_pairwise _ hm) hlen v hlo hhi hnd
  have h1 : ∀ c ∈ bsRow p v, 0 ≤ c := by
    intro c hc
    unfold bsRow at hc
    split at hc
    · exact hnn c hc
    · exact hnn c (List.mem_of_mem_drop hc)
  have h2 : p.intercept = true → sum (bsRow p v) = 1 := by
    intro hi; unfold bsRow; rw [if_pos hi]; exact hsum
  refine ⟨h1, h2, ?_⟩
  simp only [Spec.C14.bsRowHolds, length_bsRow, beq_self_eq_true, Bool.true_and, Bool.or_eq_true,
    Bool.not_eq_true', Bool.and_eq_true]
  right
  constructor
  · simp only [Spec.C14.rowNonneg, List.all_eq_true, decide_eq_true_eq, neg_zero]
    exact h1
  · cases hi : p.intercept with
    | false => left; rfl
    | true =>
      right
      simp [Spec.C14.rowSumsToOne, Spec.C14.close, sum_eq_spec, h2 hi, Spec.C14.absR]

/-- On `[lower, upper)` there is no guard: the basis functions of the clamped knot vector built
by `_initialize` are non-negative and (with intercept) sum to one. -/
theorem C14_bs_partition (x : List Rat) (a : BsArgs) (p : BsParams)
    (h : bsInitialize x a = .ok p) (v : Rat)
    (hlo : tk p.knots p.degree ≤ v) (hhi : v < tk p.knots (p.knots.length - p.degree - 1)) :
    (∀ c ∈ bsRow p v, 0 ≤ c) ∧ (p.intercept = true → sum (bsRow p v) = 1) ∧
    Spec.C14.bsRowHolds 0 p.intercept (tk p.knots p.degree)
      (tk p.knots (p.knots.length - p.degree - 1)) v (bsNCols p) (bsRow p v) = true := by
  obtain ⟨A⟩ := bsInitialize_ok h
  obtain ⟨_, hlen, _, _⟩ := A.clamped
  exact C14_bs_partition_partial x a p h v hlo (le_of_lt hhi)
    (not_degenerate_inside p.knots p.degree v hlen hlo hhi)

/-- The full statement (every `v` with `lower ≤ v ≤ upper`) … -/
def C14_bs_contract_Statement : Prop :=
  ∀ (x : List Rat) (a : BsArgs) (p : BsParams), bsInitialize x a = .ok p → ∀ v : Rat,
    Spec.C14.bsRowHolds 0 p.intercept (tk p.knots p.degree)
      (tk p.knots (p.knots.length - p.degree - 1)) v (bsNCols p) (bsRow p v) = true

def upperKnotWitness : Bool :=
  match bsInitialize [0, 1, 2, 2, 2, 2] { df := .int 5, intercept := true } with
  | .ok p => bsDegenerate p.knots p.degree 2 && (bsRow p 2).all (fun c => c == 0) &&
             !Spec.C14.bsRowHolds 0 p.intercept (tk p.knots p.degree)
               (tk p.knots (p.knots.length - p.degree - 1)) 2 (bsNCols p) (bsRow p 2)
  | .error _ => false

/-- … is false of the code at `v = upper` when an inner knot equals the upper bound (here the
median of `[0,1,2,2,2,2]` is its maximum): the selected interval is empty and every basis
function evaluates to 0 (finding KF-C14-BS-UPPER-KNOT). -/
theorem C14_bs_partition_counterexample : ¬ C14_bs_contract_Statement := by
  intro hS
  have hw : upperKnotWitness = true := by decide +kernel
  unfold upperKnotWitness at hw
  cases hr : bsInitialize [0, 1, 2, 2, 2, 2] { df := .int 5, intercept := true } with
  | error e => rw [hr] at hw; cases hw
  | ok p =>
    rw [hr] at hw
    have := hS _ _ p hr 2
    simp only [this, Bool.not_true, Bool.and_false] at hw
    cases hw

example : (bsInitialize [0, 1, 2, 3] { df := .int 4, intercept := true }).map (fun p => bsRow p (3/2))
    = .ok [1/8, 3/8, 3/8, 1/8] := by decide +kernel

/-- `raw=True`: column `k` is exactly `x^k`, `k = 1..degree` (any state: the arguments are
re-read on every call because `params_set` is never set). -/
theorem C14_poly_raw (s : Poly.St) (hs : s.paramsSet = false) (x : List Rat) (d : Nat) (hd : 1 ≤ d) :
    ∃ s' cols, Poly.call s x d true = .ok (s', .raw cols) ∧
      Spec.C14.rawPowers x d cols = true ∧ s'.paramsSet = false := by
  obtain ⟨d', rfl⟩ := Nat.exists_eq_add_of_le' hd
  obtain ⟨cols, hc, hp⟩ := Poly.rawCols_powers x d'
  refine ⟨{ s with degree := d' + 1, raw := true }, cols, ?_, hp, hs⟩
  simp only [Poly.call, hs, Bool.false_eq_true, if_false, if_true, hc]

example : (Poly.call Poly.init [1, 2, 3] 3 true).map (·.2)
    = .ok (.raw [[1, 2, 3], [1, 4, 9], [1, 8, 27]]) := by decide +kernel

/-- `params_set` is never set: `degree` and `raw` are overwritten by every call. -/
theorem C14_poly_params_never_set (s : Poly.St) (x : List Rat) (d : Nat) (r : Bool)
    (s' : Poly.St) (res : Poly.Res) (h : Poly.call s x d r = .ok (s', res)) :
    s'.paramsSet = s.paramsSet ∧ (s.paramsSet = false → s'.degree = d ∧ s'.raw = r) := by
  unfold Poly.call at h
  simp only at h
  generalize hs1 : (if s.paramsSet = true then s else { s with degree := d, raw := r }) = s1 at h
  have hps : s1.paramsSet = s.paramsSet := by rw [← hs1]; split <;> rfl
  have hdr : s.paramsSet = false → s1.degree = d ∧ s1.raw = r := by
    intro hp; rw [← hs1]; simp [hp]
  have key : s'.paramsSet = s1.paramsSet ∧ s'.degree = s1.degree ∧ s'.raw = s1.raw := by
    split at h
    · split at h
      · simp at h
      · simp only [Except.ok.injEq, Prod.mk.injEq] at h; rw [← h.1]; exact ⟨rfl, rfl, rfl⟩
    · simp only [Except.ok.injEq, Prod.mk.injEq] at h; rw [← h.1]; exact ⟨rfl, rfl, rfl⟩
  refine ⟨by rw [key.1, hps], fun hp => ?_⟩
  rw [key.2.1, key.2.2]; exact hdr hp

open Poly Ortho in
/-- Training call.  For data containing more than `D` distinct values
(`l`: `D+1` pairwise distinct values occurring in `x`), `poly(x, D)` on a fresh instance returns
the columns `P_k(x)/√norms2_k`, `k = 1..D`, where `P_k` are the polynomials of the three-term
recurrence; they are mutually orthogonal, orthogonal to the constant, and `P_k·P_k = norms2_k > 0`
(so the normalised columns are orthonormal): `Spec.C14.orthoExact`. -/
theorem C14_poly_orthogonal (x : List Rat) (D : Nat) (l : List Rat) (hnd : l.Nodup)
    (hlen : D < l.length) (hsub : ∀ v ∈ l, v ∈ x) :
    ∃ s', Poly.call Poly.init x D false
        = .ok (s', .ortho ((List.range' 1 D).map (fun k => (col x x k, (some (norm2 x k) : Num))))) ∧
      Spec.C14.orthoExact ((List.range' 1 D).map (fun k => (x.map (p x k), norm2 x k))) = true ∧
      s'.degree = D ∧ s'.raw = false ∧ s'.paramsSet = false ∧
      MemoOK s'.alpha (alpha x) ∧ MemoOK s'.norms2 (norm2 x) ∧ Complete s'.alpha s'.norms2 D := by
  have hN : ∀ j ≤ D, norm2 x j ≠ 0 := fun j hj => norm2_ne_zero x j l hnd (by omega) hsub
  let s1 : Poly.St := { Poly.init with degree := D, raw := false }
  obtain ⟨am', nm', he, hA, hM, hC, _⟩ := evalOrtho_ok x x s1 (fun j hj => hN j (Nat.le_of_lt hj : j ≤ D))
    (memoOK_nil _) (memoOK_nil _) (Or.inl rfl)
  refine ⟨{ s1 with alpha := am', norms2 := nm' }, ?_, ?_, rfl, rfl, rfl, hA, hM, hC⟩
  · simp only [Poly.call, Poly.init, Bool.false_eq_true, if_false]
    rw [show ({ paramsSet := false, degree := D, raw := false, alpha := [], norms2 := [] } : Poly.St)
      = s1 from rfl, he]
  · exact orthoExact_of x D hN _ (nodup_range' 1 D) (fun k hk => mem_range'_1 D k hk)

open Poly Ortho in
/-- Later calls (what `evaluate_new_data` does: same instance, same arguments): with the memoised
`alpha`/`norms2` of the training call, `poly` evaluates the *same* polynomials `P_k` (training
coefficients) on any new data `y`, divides by the *training* norms, and leaves the state
unchanged — although `params_set` is never set. -/
theorem C14_poly_frozen (x : List Rat) (D : Nat) (s : Poly.St)
    (hN : ∀ j < D, norm2 x j ≠ 0)
    (hd : s.degree = D) (hr : s.raw = false) (hp : s.paramsSet = false)
    (hA : MemoOK s.alpha (alpha x)) (hM : MemoOK s.norms2 (norm2 x))
    (hC : Complete s.alpha s.norms2 D) (y : List Rat) :
    Poly.call s y D false
      = .ok (s, .ortho ((List.range' 1 D).map (fun k => (col x y k, (some (norm2 x k) : Num))))) := by
  obtain ⟨ps, dg, rw', al, nm⟩ := s
  simp only at hd hr hp hA hM hC
  subst hd hr hp
  obtain ⟨am', nm', he, _, _, _, hfr⟩ :=
    evalOrtho_ok x y ⟨false, dg, false, al, nm⟩ hN hA hM (Or.inr hC)
  obtain ⟨e1, e2⟩ := hfr hC
  simp only at e1 e2
  simp only [Poly.call, Bool.false_eq_true, if_false]
  rw [he, e1, e2]

/-- `P_k` is a monic polynomial of degree `k` in the abscissa, so `1, P_1, …, P_d` and
`1, x, …, x^d` are related by a unitriangular change of basis (same span). -/
theorem C14_poly_monic (x : List Rat) (k : Nat) :
    ∃ P : Polynomial ℚ, P.Monic ∧ P.natDegree = k ∧ ∀ v, P.eval v = Ortho.p x k v :=
  ⟨(Ortho.PP x k).1, (Ortho.PP_monic x k).1, (Ortho.PP_monic x k).2.1,
   fun v => (Ortho.PP_eval x k v).1⟩

example : (Poly.call Poly.init [0, 1, 2, 3] 2 false).map (·.2)
    = .ok (.ortho [([some (-3/2), some (-1/2), some (1/2), some (3/2)], some 5),
                   ([some 1, some (-1), some (-1), some 1], some 4)]) := by decide +kernel

/-! ## ties to the tables regenerated from `formulae/transforms.py` -/

theorem tie_transforms_shape : Generated.transformsShapeOk = true := by decide

/-- the stateful registry: `standardize` is the same class as `scale` -/
theorem tie_registry : Generated.statefulRegistry =
    [("bs", "BSpline"), ("center", "Center"), ("poly", "Polynomial"), ("scale", "Scale"),
     ("standardize", "Scale")] := by decide

/-- default arguments of `BSpline.__call__` in the source … -/
theorem tie_bs_defaults : Generated.bsCallDefaults =
    [("df", "None"), ("knots", "None"), ("degree", "3"), ("intercept", "False"),
     ("lower_bound", "None"), ("upper_bound", "None")] := by decide
/-- … are the defaults of the model's argument record -/
theorem model_bs_defaults : ({} : BsArgs) = ⟨.none, .none, .int 3, false, none, none⟩ := rfl

theorem tie_poly_defaults : Generated.polyCallDefaults = [("degree", "1"), ("raw", "False")] := by
  decide
theorem model_poly_defaults : Poly.init.degree = 1 ∧ Poly.init.raw = false := ⟨rfl, rfl⟩

/-- which classes ever assign `self.params_set = True` (Polynomial does not) … -/
theorem tie_params_set : Generated.setsParamsSet =
    [("BSpline", true), ("Center", true), ("Polynomial", false), ("Scale", true)] := by decide
/-- … as in the model -/
theorem model_params_set (x : List Rat) :
    (Center.call Center.init x).1.paramsSet = true ∧ (Scale.call Scale.init x).1.paramsSet = true ∧
    (∀ a s m, BS.call BS.init x a = .ok (s, m) → s.isSome = true) := by
  refine ⟨by simp [Center.call, Center.init], by simp [Scale.call, Scale.init], ?_⟩
  intro a s m h
  simp only [BS.call, BS.init] at h
  split at h
  · simp at h
  · split at h
    · simp at h
    · simp only [Except.ok.injEq, Prod.mk.injEq] at h; rw [← h.1]; rfl

/-- `np.std` is called without `ddof` (population standard deviation, as `var?`) -/
theorem tie_std_population : Generated.scaleStdKeywords = [] := by decide

end FormulaeModel.C14
