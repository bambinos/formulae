import FormulaeModel.Proofs.WorldHistory
import FormulaeModel.Generated.Tables
/-
C07 — designs are isolated: no state leaks across evaluations, designs or calls.
Prediction on a state that an evaluation can have produced returns that state; a step appends the
design it builds and otherwise leaves the world; hence the output of an operation after any history
is its output in a fresh process that has seen only what the operation may depend on.
-/
namespace FormulaeModel.C07
open FormulaeModel.Design FormulaeModel.World FormulaeModel.Spec.C07

theorem tie_shape : Generated.c07ShapeOk = true := by decide

/-- `Config.FIELDS` is what the model's `setConfig` implements: one field, three choices, the
first one is the default, unknown field → KeyError, invalid choice → ValueError -/
theorem tie_config :
    Generated.c07ConfigFields = [(configKey, [UnseenMode.error, .warning, .silent].map modeName)]
    ∧ Generated.c07ConfigDefaultFirst = true ∧ Generated.c07ConfigSetattrErrors = true
    ∧ (Generated.c07ConfigFields.flatMap (·.2)).all (fun s => (modeOfString? s).isSome) = true
    ∧ (Generated.c07ConfigFields.flatMap (·.2)).head? = some (modeName World.init.config) := by decide +kernel

/-- the configuration is read where new data are evaluated (and nowhere else), and the library
never writes it -/
theorem tie_config_sites :
    Generated.c07ConfigReadSites = ["Call.eval_new_data_categoric", "Variable.eval_new_data_categoric"]
    ∧ Generated.c07ConfigWriteSites = [] := by decide +kernel

/-- no prediction path assigns to anything reachable from `self`; the one aliasing between a matrix
object and the one derived from it is the `slices` dictionary of the common part -/
theorem tie_prediction_writes :
    Generated.c07PredictionSelfWrites = []
    ∧ Generated.c07SharedSlices = ["CommonEffectsMatrix.evaluate_new_data"] := by decide +kernel

/-- one transform instance per call node: created in `LazyCall.eval` only while it is `None`, and
`LazyCall.eval` writes nothing else -/
theorem tie_lazycall :
    Generated.c07LazyCallInitNone = true ∧ Generated.c07LazyCallGuardedCreate = true
    ∧ Generated.c07LazyCallEvalWrites = ["self.stateful_transform"] := by decide +kernel

/-- the registry holds classes and functions (no instance), the stateful names are the known
ones; `__call__` of a stateful class writes `self` only under `if not self.params_set`;
`Polynomial` never sets `params_set` (its memo dictionaries carry the state instead) -/
theorem tie_transforms :
    Generated.c07Registry.all (fun p => p.2 == "class" || p.2 == "function") = true
    ∧ Generated.c07StatefulNames = ["bs", "center", "poly", "scale", "standardize"]
    ∧ Generated.c07StatefulClasses = ["BSpline", "Center", "Polynomial", "Scale"]
    ∧ Generated.c07UnguardedCallWrites = []
    ∧ Generated.c07ParamsSetTrue = ["BSpline", "Center", "Scale"] := by decide +kernel

/-- Prediction never changes transform state: for every expression and every state of the shape
of its call tree, the state returned by the evaluator is the state it was given. -/
theorem C07_eval_pure (env : Env) (e : Expr) (t : TS) (kw : Option String) (v : Val) (t' : TS)
    (hs : shapeOf e t = true) (h : evalArg env e (some t) = .ok (kw, v, t')) : t' = t :=
  evalArg_pure env e t kw v t' hs h

/-- … in particular for every state that an earlier evaluation (training on any data, from any
state) returned. -/
theorem C07_eval_pure_trained (env₀ env : Env) (e : Expr) (ts₀ : Option TS) (kw₀ kw : Option String)
    (v₀ v : Val) (t t' : TS) (h₀ : evalArg env₀ e ts₀ = .ok (kw₀, v₀, t))
    (h : evalArg env e (some t) = .ok (kw, v, t')) : t' = t :=
  evalArg_pure env e t kw v t' (evalArg_shape env₀ e ts₀ kw₀ v₀ t h₀) h

def exCenter : Expr :=
  .call (.variable ⟨.IDENTIFIER, "center"⟩) ⟨.LEFT_PAREN, "("⟩
    (.last (.variable ⟨.IDENTIFIER, "x"⟩)) ⟨.RIGHT_PAREN, ")"⟩

def exFrame (xs : List Rat) : Frame :=
  [{ name := "x", kind := .numeric false, cells := xs.map Cell.num },
   { name := "g", kind := .string, cells := xs.map (fun _ => Cell.str "u") }]

/-- the parameter of the root node's transform instance after evaluating `e` -/
def ownAfter (env : Env) (e : Expr) (ts : Option TS) : Option (Option Rat) :=
  (evalArg env e ts).toOption.map (fun r => TS.own (some r.2.2))

/-- the guard of `C07_eval_pure` is needed: on a state that no evaluation can have produced
(a `center` node whose instance has no parameter yet) prediction does write -/
theorem C07_eval_pure_counterexample :
    shapeOf exCenter (.node none [.leaf]) = false ∧
    TS.own (some (.node none [.leaf])) = none ∧
    ownAfter { frame := exFrame [1, 3] } exCenter (some (.node none [.leaf])) = some (some 2) := by
  decide +kernel

-- non-vacuity: a state produced by training has the shape, and prediction on other data succeeds
example : ownAfter { frame := exFrame [1, 3] } exCenter none = some (some 2) := by decide +kernel
example : shapeOf exCenter (.node (some 2) [.leaf]) = true := by decide
example : (match evalArg { frame := exFrame [5, 6, 7] } exCenter (some (.node (some 2) [.leaf])) with
     | .ok (_, .vec xs _, t') => (xs, TS.own (some t'))
     | _ => ([], none)) = ([some 3, some 4, some 5], some 2) := by decide +kernel

theorem C07_newComp_pure (st : CompState) (env : Env) (mode : UnseenMode) (o : Matrix × Bool)
    (st' : CompState) (hw : compWf st = true) (h : newCompS st env mode = .ok (o, st')) : st' = st :=
  newCompS_pure st env mode hw _ h

theorem C07_newTerm_pure (t : TermState) (env : Env) (mode : UnseenMode) (o : Matrix × Bool)
    (t' : TermState) (hw : termWf t = true) (h : newTermS t env mode = .ok (o, t')) : t' = t :=
  newTermS_pure t env mode hw _ h

theorem C07_newGroup_pure (g : GroupState) (env : Env) (mode : UnseenMode) (o : Matrix × Bool)
    (g' : GroupState) (hw : groupWf g = true) (h : newGroupS g env mode = .ok (o, g')) : g' = g :=
  newGroupS_pure g env mode hw _ h

theorem C07_newComp_out (st : CompState) (env : Env) (mode : UnseenMode) :
    (newCompS st env mode).map (·.1) = newComp st env mode := newCompS_out st env mode
theorem C07_newTerm_out (t : TermState) (env : Env) (mode : UnseenMode) :
    (newTermS t env mode).map (·.1) = newTerm t env mode := newTermS_out t env mode
theorem C07_newGroup_out (g : GroupState) (env : Env) (mode : UnseenMode) :
    (newGroupS g env mode).map (·.1) = newGroup g env mode := newGroupS_out g env mode

/-- what training returns is well-formed (so the guards above hold for every built design) -/
theorem C07_build_wf (spec : BuildSpec) (frame : Frame) (d : DesignState) (b : Built)
    (h : buildDesign spec frame = .ok (d, b)) : d.wf = true ∧ d.train = b :=
  ⟨buildDesign_wf spec frame _ h, buildDesign_train spec frame _ h⟩

theorem C07_reachable_wf (h : List Op) : (run World.init h).wf = true :=
  run_wf World.init (by rfl) h

/-- Evaluating new data leaves the world — every design, the configuration — exactly as it was. -/
theorem C07_eval_common_pure (w : World) (hw : w.wf = true) (i : Nat) (frame : Frame) :
    (step w (.evalCommon i frame)).1 = w := by
  rw [step_world w hw]; simp [Op.created, Op.configured]

theorem C07_eval_group_pure (w : World) (hw : w.wf = true) (i : Nat) (frame : Frame) :
    (step w (.evalGroup i frame)).1 = w := by
  rw [step_world w hw]; simp [Op.created, Op.configured]

theorem C07_eval_pure_reachable (h : List Op) (i : Nat) (frame : Frame) :
    (step (run World.init h) (.evalCommon i frame)).1 = run World.init h
    ∧ (step (run World.init h) (.evalGroup i frame)).1 = run World.init h :=
  ⟨C07_eval_common_pure _ (C07_reachable_wf h) i frame, C07_eval_group_pure _ (C07_reachable_wf h) i frame⟩

/-- `build` appends the new design (none if it raised) and touches nothing else; neither the new
design nor the output depends on the world. -/
theorem C07_build_fresh (w : World) (spec : BuildSpec) (frame : Frame) :
    (step w (.build spec frame)).1.designs = w.designs ++ (Op.build spec frame).created
    ∧ (step w (.build spec frame)).1.config = w.config
    ∧ ∀ w' : World, (step w' (.build spec frame)).2 = (step w (.build spec frame)).2 := by
  refine ⟨by rw [step_build], by rw [step_build], fun w' => ?_⟩
  rw [step_out, step_out]; rfl

theorem C07_config_frame (w : World) (key value : String) :
    (step w (.setConfig key value)).1.designs = w.designs := by
  rw [step_setConfig]

/-- The output of `o` after the history `h` equals its output in a fresh process that has only
seen the last configuration change of `h` and the `build` that created the design `o` refers to. -/
theorem C07_history_independence : HistoryIndependent := history_independence

/-- Evaluating the same frame twice gives the same output (and so does any repetition of an
evaluation after the history in between: by `C07_history_independence`). -/
theorem C07_repeatable (w : World) (hw : w.wf = true) (i : Nat) (frame : Frame) :
    (step (step w (.evalCommon i frame)).1 (.evalCommon i frame)).2 = (step w (.evalCommon i frame)).2
    ∧ (step (step w (.evalGroup i frame)).1 (.evalGroup i frame)).2 = (step w (.evalGroup i frame)).2 := by
  rw [C07_eval_common_pure w hw, C07_eval_group_pure w hw]
  exact ⟨rfl, rfl⟩

theorem outputs_eq_fresh (pre : List Op) : ∀ (h : List Op),
    outputs (run World.init pre) h = freshOutputs pre h
  | [] => rfl
  | o :: h => by
    simp only [outputs, freshOutputs]
    rw [history_independence pre o]
    have : (step (run World.init pre) o).1 = run World.init (pre ++ [o]) := by
      rw [run_append]; rfl
    rw [this, outputs_eq_fresh (pre ++ [o]) h]

theorem holds_refl : ∀ (os : List Out), holds (os.zip os) [] = true
  | [] => rfl
  | o :: os => by
    have := holds_refl os
    simp only [holds, List.all_nil, Bool.and_true] at this ⊢
    simp [List.zip_cons_cons, this]

/-- The specification holds on every history of the model: every operation's output equals its
fresh-state output (in the model nothing else is observable: values are immutable). -/
theorem C07_history_spec (h : List Op) :
    holds ((outputs World.init h).zip (freshOutputs [] h)) [] = true := by
  have := outputs_eq_fresh [] h
  simp only [run] at this
  rw [← this]
  exact holds_refl _

-- non-vacuity: two designs over the same stateful transform, a configuration change, evaluations
def exSpec : BuildSpec :=
  { table := [("center(x)", exCenter)], response := none,
    common := [{ name := "Intercept", comps := [] }, { name := "center(x)", comps := [("center(x)", false)] }],
    group := [], names := [] }

def exHistory : List Op :=
  [.build exSpec (exFrame [1, 3]), .setConfig configKey "silent", .build exSpec (exFrame [10, 20]),
   .evalCommon 1 (exFrame [5]), .evalCommon 0 (exFrame [5])]

example : (outputs World.init exHistory).drop 3 =
    [.evaluated [[some 1, some (-10)]] [⟨"Intercept", 0, 1⟩, ⟨"center(x)", 1, 2⟩] [] false,
     .evaluated [[some 1, some 3]] [⟨"Intercept", 0, 1⟩, ⟨"center(x)", 1, 2⟩] [] false] := by
  decide +kernel

example : (relevant (exHistory.take 4) (.evalCommon 0 (exFrame [5]))).length = 2 := by decide +kernel

end FormulaeModel.C07
