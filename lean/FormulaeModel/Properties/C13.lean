import FormulaeModel.Proofs.Coding
import FormulaeModel.Generated.Tables
/-
C13 — property theorems.  Statements use only Model/Coding, Spec/C13 and Generated/Tables.

Every theorem is for an arbitrary list of levels (any length) and an arbitrary reference /
omitted level; nothing is bounded.

What is proved about "interchange": every admissible reduced coding, together with the constant,
is a basis of the space of functions of the level (`C13_treatment_basis`, `C13_sum_basis`,
`C13_basis_independent`, `C13_basis_spanning`), and every full coding spans it (`C13_full_span`);
hence two admissible codings of a factor generate the same factor space.  That equal factor spaces
give equal column spaces of the whole design matrix (products of factor spaces, term by term) is
the tensor-product argument of DESIGN.md, trusted mathematics, *tested* by harness/c13.py with
exact rational arithmetic.
-/
namespace FormulaeModel.C13
open FormulaeModel.Coding FormulaeModel.Spec.C13 FormulaeModel.Proofs.Coding

/-- Naming the `r`-th of distinct levels selects index `r` (so the theorems below, stated for a
resolved index, cover every reference position). -/
theorem C13_every_reference (levels : List String) (hn : levels.Nodup) (r : Nat)
    (hr : r < levels.length) : referenceIndex? (some levels[r]) levels = some r := by
  simp [referenceIndex?, List.getElem_mem hr, hn.idxOf_getElem r hr]

theorem C13_every_omit (levels : List String) (hn : levels.Nodup) (o : Nat)
    (ho : o < levels.length) : omitIndex? (some levels[o]) levels = some o := by
  simp [omitIndex?, List.getElem_mem ho, hn.idxOf_getElem o ho]

/-- `Treatment(reference).code_without_intercept(levels)`, whenever the reference resolves to index
`r` (named level, or the first level by default; needs at least one level): `n` rows, `n - 1`
columns, reference row zero, the other rows the unit vectors in level order, labels = levels
without the reference, as many as columns. -/
theorem C13_treatment_shape (reference : Option String) (levels : List String) (r : Nat)
    (h : referenceIndex? reference levels = some r) :
    ∃ cm, Treatment.codeWithoutIntercept reference levels = .ok cm ∧
      treatmentReduced levels r cm.matrix cm.labels = true :=
  ⟨_, treatment_without_ok h,
    (treatmentReduced_iff (referenceIndex_lt h)).mpr ⟨entries_reducedClosed _ _ _, rfl⟩⟩

/-- A reference that is not a level (or no level at all) is refused, never replaced silently. -/
theorem C13_treatment_rejects (reference : Option String) (levels : List String)
    (h : referenceIndex? reference levels = none) :
    ∃ e, Treatment.codeWithoutIntercept reference levels = .error e :=
  treatment_without_err h

/-- Any matrix of that shape has full rank together with the constant: `treatInv n r` (rows
`e_ref` and `e_l - e_ref`, integer entries) is a two-sided inverse of `[1 | T]`, entry by entry. -/
theorem C13_treatment_basis (levels : List String) (r : Nat) (T : IMatrix) (labels : List String)
    (hr : r < levels.length) (h : treatmentReduced levels r T labels = true) :
    treatmentBasis levels.length r T = true ∧
    ∀ i k, i < levels.length → k < levels.length →
      mulEnt (treatInv levels.length r) (withConst T) levels.length i k = (if i = k then 1 else 0) ∧
      mulEnt (withConst T) (treatInv levels.length r) levels.length i k = (if i = k then 1 else 0) := by
  have he := ((treatmentReduced_iff hr).mp h).1
  exact ⟨treatmentBasis_of_entries he hr, treat_inverse he hr⟩

/-- … in particular the matrix the model returns. -/
theorem C13_treatment_basis_model (reference : Option String) (levels : List String) (r : Nat)
    (h : referenceIndex? reference levels = some r) :
    ∃ cm, Treatment.codeWithoutIntercept reference levels = .ok cm ∧
      treatmentBasis levels.length r cm.matrix = true := by
  obtain ⟨cm, h1, h2⟩ := C13_treatment_shape reference levels r h
  exact ⟨cm, h1, (C13_treatment_basis levels r cm.matrix cm.labels (referenceIndex_lt h) h2).1⟩

/-- `Sum(omit).code_without_intercept(levels)`, whenever the omitted level resolves to index `o`
(named level, or the last level by default): `n × (n-1)`, every column sums to zero over the
levels, the omitted row is all `-1`, the other rows are the unit vectors, labels = levels without
the omitted one. -/
theorem C13_sum_zero (omitted : Option String) (levels : List String) (o : Nat)
    (h : omitIndex? omitted levels = some o) :
    ∃ cm, Sum.codeWithoutIntercept omitted levels = .ok cm ∧
      sumReduced levels o cm.matrix cm.labels = true ∧
      ∀ j, j < levels.length - 1 → colSum cm.matrix levels.length j = 0 :=
  ⟨_, sum_without_ok h,
    (sumReduced_iff (omitIndex_lt h)).mpr ⟨entries_reducedClosed _ _ _, rfl⟩,
    fun j hj => colSum_zero (entries_reducedClosed _ _ _) (omitIndex_lt h) j hj⟩

theorem C13_sum_rejects (omitted : Option String) (levels : List String)
    (h : omitIndex? omitted levels = none) :
    (∃ e, Sum.codeWithoutIntercept omitted levels = .error e) ∧
    (∃ e, Sum.codeWithIntercept omitted levels = .error e) :=
  ⟨sum_without_err h, sum_with_err h⟩

/-- Any matrix of that shape has full rank together with the constant: with
`A = sumInvNum n o` (rows `1ᵀ` and `n e_l - 1ᵀ`), `A · [1 | S] = n · I` and `[1 | S] · A = n · I`,
i.e. `(1/n) A` is the two-sided inverse. -/
theorem C13_sum_basis (levels : List String) (o : Nat) (S : IMatrix) (labels : List String)
    (ho : o < levels.length) (h : sumReduced levels o S labels = true) :
    sumBasis levels.length o S = true ∧
    ∀ i k, i < levels.length → k < levels.length →
      mulEnt (sumInvNum levels.length o) (withConst S) levels.length i k
        = (if i = k then (levels.length : Int) else 0) ∧
      mulEnt (withConst S) (sumInvNum levels.length o) levels.length i k
        = (if i = k then (levels.length : Int) else 0) := by
  have he := ((sumReduced_iff ho).mp h).1
  exact ⟨sumBasis_of_entries he ho, sum_inverse he ho⟩

/-- The same over ℚ: the matrix with entries `sumInvNum[i][k] / n` is the inverse of `[1 | S]`. -/
theorem C13_sum_basis_rat (levels : List String) (o : Nat) (S : IMatrix) (labels : List String)
    (ho : o < levels.length) (h : sumReduced levels o S labels = true) :
    ∀ i k, i < levels.length → k < levels.length →
      sumToQ levels.length (fun m => ((ent (sumInvNum levels.length o) i m : Int) : Rat) / levels.length
          * (ent (withConst S) m k : Int)) = (if i = k then 1 else 0) ∧
      sumToQ levels.length (fun m => ((ent (withConst S) i m : Int) : Rat)
          * (((ent (sumInvNum levels.length o) m k : Int) : Rat) / levels.length))
        = (if i = k then 1 else 0) := by
  intro i k hi hk
  obtain ⟨h1, h2⟩ := (C13_sum_basis levels o S labels ho h).2 i k hi hk
  have hn : (levels.length : Int) ≠ 0 := by omega
  exact ⟨(scaled_inverse_rat hn h1).1, (scaled_inverse_rat hn h2).2⟩

/-! ### "full rank together with the constant", literally -/

/-- Linear independence over ℚ of the columns of `[1 | M]` for every admissible reduced coding
(treatment with any reference, sum with any omitted level). -/
theorem C13_basis_independent (levels : List String) (k : Nat) (M : IMatrix) (labels : List String)
    (hk : k < levels.length)
    (h : treatmentReduced levels k M labels = true ∨ sumReduced levels k M labels = true)
    (v : Nat → Rat)
    (hv : ∀ i, i < levels.length →
      sumToQ levels.length (fun c => (ent (withConst M) i c : Rat) * v c) = 0) :
    ∀ c, c < levels.length → v c = 0 := by
  rcases h with h | h
  · exact independent_of_left_inverse (s := 1) (by decide)
      (fun i c hi hc => ((C13_treatment_basis levels k M labels hk h).2 i c hi hc).1) v hv
  · have hn : (levels.length : Int) ≠ 0 := by omega
    exact independent_of_left_inverse hn
      (fun i c hi hc => ((C13_sum_basis levels k M labels hk h).2 i c hi hc).1) v hv

/-- … and they span: every function `f` of the level is `[1 | M] β` for explicit coefficients `β`
(`treatInv f`, resp. `(1/n) sumInvNum f`).  Together: a basis of the `n`-dimensional factor space. -/
theorem C13_basis_spanning (levels : List String) (k : Nat) (M : IMatrix) (labels : List String)
    (hk : k < levels.length)
    (h : treatmentReduced levels k M labels = true ∨ sumReduced levels k M labels = true)
    (f : Nat → Rat) :
    ∃ β : Nat → Rat, ∀ i, i < levels.length →
      sumToQ levels.length (fun c => (ent (withConst M) i c : Rat) * β c) = f i := by
  rcases h with h | h
  · exact ⟨_, spanning_of_right_inverse (s := 1) (by decide)
      (fun i c hi hc => ((C13_treatment_basis levels k M labels hk h).2 i c hi hc).2) f⟩
  · have hn : (levels.length : Int) ≠ 0 := by omega
    exact ⟨_, spanning_of_right_inverse hn
      (fun i c hi hc => ((C13_sum_basis levels k M labels hk h).2 i c hi hc).2) f⟩

/-- Interchange, the part that is proved: any two admissible reduced codings of the same levels
(treatment with any reference, sum with any omitted level) generate, together with the constant,
the same factor space — every column of `[1 | M₂]` is a rational combination of the columns of
`[1 | M₁]` (and conversely, with the roles exchanged, when `k₂ < levels.length`). -/
theorem C13_interchange_factor_space (levels : List String) (k₁ k₂ : Nat) (M₁ M₂ : IMatrix)
    (l₁ l₂ : List String) (hk₁ : k₁ < levels.length)
    (h₁ : treatmentReduced levels k₁ M₁ l₁ = true ∨ sumReduced levels k₁ M₁ l₁ = true)
    (_h₂ : treatmentReduced levels k₂ M₂ l₂ = true ∨ sumReduced levels k₂ M₂ l₂ = true)
    (c : Nat) :
    ∃ β : Nat → Rat, ∀ i, i < levels.length →
      sumToQ levels.length (fun a => (ent (withConst M₁) i a : Rat) * β a)
        = (ent (withConst M₂) i c : Rat) :=
  C13_basis_spanning levels k₁ M₁ l₁ hk₁ h₁ (fun i => (ent (withConst M₂) i c : Rat))

/-- Full codings span all level indicators: the full treatment matrix *is* the matrix of
indicators (identity, labels = levels); the full sum matrix is `[1 | S]` with labels
`mean :: …`, and `[1 | S] · sumInvNum = n · I`, so each indicator is an explicit combination of
its columns. -/
theorem C13_full_span (levels : List String) :
    (∀ reference, ∃ cm, Treatment.codeWithIntercept reference levels = .ok cm ∧
        treatmentFull levels cm.matrix cm.labels = true) ∧
    (∀ omitted o, omitIndex? omitted levels = some o →
      ∃ cm red, Sum.codeWithIntercept omitted levels = .ok cm ∧
        Sum.codeWithoutIntercept omitted levels = .ok red ∧
        cm.matrix = withConst red.matrix ∧ cm.labels = "mean" :: red.labels ∧
        sumFull levels o cm.matrix cm.labels = true ∧
        spansIndicators levels.length o cm.matrix = true) := by
  constructor
  · intro reference
    exact ⟨_, rfl, by simp [treatmentFull, isIdentity_eye]⟩
  · intro omitted o h
    have he := entries_reducedClosed levels.length o (-1)
    exact ⟨_, _, sum_with_ok h, sum_without_ok h, rfl, rfl, sumFull_of_entries he (omitIndex_lt h),
      spansIndicators_of_entries he (omitIndex_lt h)⟩

/-- Labels name the levels of the columns (distinct levels): there are as many labels as
columns; a treatment column is the indicator of the level its label names; a sum column is `+1`
exactly at the level its label names (the first column of the full sum matrix is `mean`). -/
theorem C13_labels (levels : List String) (hn : levels.Nodup) :
    (∀ reference r, referenceIndex? reference levels = some r →
      ∃ cm, Treatment.codeWithoutIntercept reference levels = .ok cm ∧
        isShape cm.matrix levels.length cm.labels.length = true ∧
        indicatorOfLabel levels cm.labels cm.matrix = true) ∧
    (∀ reference, ∃ cm, Treatment.codeWithIntercept reference levels = .ok cm ∧
        isShape cm.matrix levels.length cm.labels.length = true ∧
        indicatorOfLabel levels cm.labels cm.matrix = true) ∧
    (∀ omitted o, omitIndex? omitted levels = some o →
      (∃ cm, Sum.codeWithoutIntercept omitted levels = .ok cm ∧
        isShape cm.matrix levels.length cm.labels.length = true ∧
        plusOneAtLabel levels cm.labels cm.matrix 0 = true) ∧
      (∃ cm, Sum.codeWithIntercept omitted levels = .ok cm ∧
        isShape cm.matrix levels.length cm.labels.length = true ∧
        cm.labels.head? = some "mean" ∧
        plusOneAtLabel levels cm.labels cm.matrix 1 = true)) := by
  refine ⟨?_, ?_, ?_⟩
  · intro reference r h
    have hr := referenceIndex_lt h
    have he := entries_reducedClosed levels.length r 0
    refine ⟨_, treatment_without_ok h, ?_, indicatorOfLabel_reduced hn he hr⟩
    simpa [List.length_eraseIdx, hr] using he.1
  · intro reference
    refine ⟨_, rfl, ?_, indicatorOfLabel_full levels hn⟩
    simp [eye, isShape_table]
  · intro omitted o h
    have ho := omitIndex_lt h
    have he := entries_reducedClosed levels.length o (-1)
    constructor
    · refine ⟨_, sum_without_ok h, ?_, plusOneAtLabel_reduced hn he ho⟩
      simpa [List.length_eraseIdx, ho] using he.1
    · refine ⟨_, sum_with_ok h, ?_, rfl, plusOneAtLabel_withConst _ (plusOneAtLabel_reduced hn he ho)⟩
      have := isShape_withConst _ _ _ he.1
      simpa [List.length_eraseIdx, ho] using this

/-- The first level is the default `Treatment` reference … -/
theorem C13_default_reference_first (a : String) (rest : List String) :
    Treatment.codeWithoutIntercept none (a :: rest)
      = Treatment.codeWithoutIntercept (some a) (a :: rest) := by
  rw [treatment_without_ok (r := 0) (by simp [referenceIndex?]),
    treatment_without_ok (r := 0) (by simp [referenceIndex?])]

/-- … and the last level the default `Sum` omitted level (distinct levels). -/
theorem C13_default_omit_last (levels : List String) (hn : levels.Nodup) (hne : levels ≠ []) :
    Sum.codeWithoutIntercept none levels
      = Sum.codeWithoutIntercept (some (levels.getLast hne)) levels := by
  have hl : 0 < levels.length := List.length_pos_iff.mpr hne
  have h1 : omitIndex? none levels = some (levels.length - 1) := by
    simp [omitIndex?, hne]
  have h2 : omitIndex? (some (levels.getLast hne)) levels = some (levels.length - 1) := by
    have := C13_every_omit levels hn (levels.length - 1) (by omega)
    rwa [← List.getLast_eq_getElem] at this
  rw [sum_without_ok h1, sum_without_ok h2]

/-- The specification holds of the model: for every column,
every spelling of the factor (`g`, `C(g, contrast, levels)`, `T(g, ref, levels)`,
`S(g, omit, levels)`, `C(C(g, …), …)`) in the scope of the statement and every coding mode, either
the evaluation succeeds and the evaluated factor has exactly the levels (order!), contrast matrix,
labels and rows the spelling asks for, or it is refused and the named reference / omitted level
does not occur. -/
theorem C13_design (d : Data) (sp : Spelling) (spansIntercept : Bool)
    (hs : inScope d sp = true) (hg : aliasOnBox sp = false) :
    outcomeHolds d sp spansIntercept (evalSpelling d sp spansIntercept).toOption = true :=
  design_holds d sp spansIntercept hs hg

/-- `levels=` fixes the order: an evaluated `C(g, contrast, levels=lv)` has levels `lv` (row order
of the contrast matrix), its rows are the contrast rows of the observations' levels, and its
contrast matrix is the coding of `lv` — with the first of `lv` as the default treatment reference
and the last as the default omitted level (`codingHolds` resolves the defaults that way). -/
theorem C13_levels_order (d : Data) (contrast : ContrastArg) (lv : List String)
    (spansIntercept : Bool) (hs : arrangement d lv = true) (ev : Evaluated)
    (h : evalSpelling d (.c contrast (some lv)) spansIntercept = .ok ev) :
    ev.levels = lv ∧
    rowsFollowLevels lv d.values ev.contrast.matrix ev.value = true ∧
    codingHolds (meaning (.c contrast (some lv))).1 spansIntercept lv ev.contrast.matrix
      ev.contrast.labels = some true := by
  have hin : inScope d (.c contrast (some lv)) = true := by
    cases hd : d.orderedCategories <;> simp [inScope, explicitLevels, innerLevels, hs, hd]
  have := C13_design d (.c contrast (some lv)) spansIntercept hin rfl
  rw [h] at this
  simp only [Except.toOption, outcomeHolds, designHolds, Bool.and_eq_true, beq_iff_eq] at this
  obtain ⟨hsp, hd⟩ := this
  cases hc : codingHolds (meaning (.c contrast (some lv))).1 ev.spansIntercept ev.levels
      ev.contrast.matrix ev.contrast.labels with
  | none => simp [hc] at hd
  | some b =>
    simp only [hc, Option.map_some, Option.getD_some, Bool.and_eq_true] at hd
    have hlv : ev.levels = lv := by simpa [meaning, levelsOK] using hd.1.2
    rw [hlv] at hd hc
    rw [hsp] at hc
    exact ⟨hlv, hd.2, by rw [hc, hd.1.1]⟩

/-- Outside the scope (defect D13 of DESIGN.md, mirrored by the model; it concerns new data, C06):
a listed level that does not occur in the rows makes `C(g, levels=lv)` raise instead of giving a
zero column. -/
theorem C13_unobserved_level_refused (d : Data) (contrast : ContrastArg) (lv : List String)
    (x : String) (hx : x ∈ lv) (hnx : ¬ x ∈ d.values) (spansIntercept : Bool) :
    ∃ e, evalSpelling d (.c contrast (some lv)) spansIntercept = .error e := by
  have hss : sameSet lv d.values = false := by
    cases h : sameSet lv d.values with
    | false => rfl
    | true => exact absurd (((sameSet_iff _ _).mp h x).mp hx) hnx
  refine ⟨.levelsDiffer, ?_⟩
  obtain ⟨vals, ord⟩ := d
  cases ord <;> cases contrast <;>
    simp [evalSpelling, C, mkBox, hss, bind, Except.bind, throw, throwThe, MonadExceptOf.throw]

/-- The full reading of "T(x, r) is C(x, Treatment(r)), S(x, o) is C(x, Sum(o))": for every first
argument, a column or the result of an inner `C(...)`. -/
def AliasesStatement : Prop :=
  ∀ (x : Arg) (a : Option String) (lv : Option (List String)),
    T x a lv = C x (.inst (.treatment a)) lv ∧ S x a lv = C x (.inst (.sum a)) lv

/-- Guard of the proved part: the first argument is a column. -/
def Arg.isData : Arg → Bool
  | .data _ => true
  | .box _ => false

/-- On columns the aliases give identical boxes; so do the class and the instance with default
arguments. -/
theorem C13_aliases_partial (x : Arg) (hx : Arg.isData x = true) (a : Option String)
    (lv : Option (List String)) :
    T x a lv = C x (.inst (.treatment a)) lv ∧ S x a lv = C x (.inst (.sum a)) lv ∧
    C x (.cls .Treatment) lv = T x none lv ∧ C x (.cls .Sum) lv = S x none lv := by
  cases x with
  | data d => exact ⟨rfl, rfl, rfl, rfl⟩
  | box b => simp [Arg.isData] at hx

/-- A missing contrast evaluates like `Treatment()`; a plain (not ordered) column evaluates like
`C(column)`. -/
theorem C13_aliases_eval (d : Data) (lv : Option (List String)) (spansIntercept : Bool) :
    evalSpelling d (.c .none lv) spansIntercept = evalSpelling d (.t none lv) spansIntercept ∧
    (d.orderedCategories = none →
      evalSpelling d .plain spansIntercept = evalSpelling d (.c .none none) spansIntercept) :=
  ⟨C_default_eq_T d lv spansIntercept, variable_eq_C d spansIntercept⟩

/-- The full statement is false of the current code (finding KF-C13-D25): `T` / `S` applied to the
result of an inner `C(...)` raise `AttributeError` where `C` with the corresponding contrast
evaluates. -/
theorem C13_aliases_counterexample : ¬ AliasesStatement := by
  intro h
  have h1 := (h (.box ⟨["a", "b"], none, none⟩) (some "b") none).1
  have h2 : T (.box ⟨["a", "b"], none, none⟩) (some "b") none = .error .boxHasNoDtype := rfl
  have h3 : (C (.box ⟨["a", "b"], none, none⟩) (.inst (.treatment (some "b"))) none).toOption.isSome
      = true := by decide
  rw [← h1, h2] at h3
  exact absurd h3 (by decide)

/-- … and, on the evaluation level, the specification is false exactly there: every spelling in
the class `aliasOnBox` is refused although its option names an occurring level. -/
theorem C13_design_counterexample :
    outcomeHolds ⟨["a", "b", "a"], none⟩ (.tc .none none (some "b")) false
      (evalSpelling ⟨["a", "b", "a"], none⟩ (.tc .none none (some "b")) false).toOption = false ∧
    aliasOnBox (.tc .none none (some "b")) = true ∧
    inScope ⟨["a", "b", "a"], none⟩ (.tc .none none (some "b")) = true := by
  decide

theorem C13_alias_on_box_refused (d : Data) (sp : Spelling) (spansIntercept : Bool)
    (h : aliasOnBox sp = true) : ∃ e, evalSpelling d sp spansIntercept = .error e :=
  alias_on_box_refused d sp spansIntercept h

/-! ### ties to the source (regenerated on every run) -/

theorem tie_coding_shape : Generated.codingShapeOk = true := by decide
theorem tie_encodings : Generated.encodingsKeys = documentedEncodings := by decide
theorem tie_registry : Generated.codingRegistry = documentedRegistry := by decide
theorem tie_signatures : Generated.codingSignatures = documentedSignatures := by decide
theorem tie_default_reference :
    Generated.treatmentDefaultReference = documentedDefaultReference := by decide
theorem tie_default_omit : Generated.sumDefaultOmit = documentedDefaultOmit := by decide

/-! ### non-vacuity -/

-- every hypothesis above is satisfiable by non-trivial inputs
example : referenceIndex? (some "c") ["a", "b", "c", "d"] = some 2 := by decide
example : omitIndex? none ["a", "b", "c", "d"] = some 3 := by decide
example : (Treatment.codeWithoutIntercept (some "c") ["a", "b", "c", "d"]).toOption
    = some ⟨[[1, 0, 0], [0, 1, 0], [0, 0, 0], [0, 0, 1]], ["a", "b", "d"]⟩ := by decide
example : (Sum.codeWithIntercept (some "b") ["a", "b", "c"]).toOption
    = some ⟨[[1, 1, 0], [1, -1, -1], [1, 0, 1]], ["mean", "a", "c"]⟩ := by decide
example : treatmentReduced ["a", "b", "c"] 1 [[1, 0], [0, 0], [0, 1]] ["a", "c"] = true := by decide
example : sumReduced ["a", "b", "c"] 0 [[-1, -1], [1, 0], [0, 1]] ["b", "c"] = true := by decide
-- the predicates are not trivially true: a wrong reference row, a wrong omitted row, shifted labels
example : treatmentReduced ["a", "b", "c"] 1 [[1, 0], [0, 1], [0, 0]] ["a", "c"] = false := by decide
example : sumReduced ["a", "b", "c"] 0 [[-1, 0], [1, 0], [0, 1]] ["b", "c"] = false := by decide
example : treatmentBasis 3 1 [[1, 0], [0, 1], [0, 0]] = false := by decide
example : indicatorOfLabel ["a", "b", "c"] ["b", "c"] [[1, 0], [0, 0], [0, 1]] = false := by decide
example : inScope ⟨["b", "a", "c", "a"], none⟩ (.c (.cls .Sum) (some ["c", "a", "b"])) = true := by
  decide
example : arrangement ⟨["b", "a", "c", "a"], none⟩ ["c", "a", "b"] = true := by decide
example : inScope ⟨["b", "a"], some ["b", "a"]⟩ (.cc (.inst (.sum (some "a"))) none .none (some ["a", "b"]))
    = true := by decide
example : (evalSpelling ⟨["b", "a", "c", "a"], none⟩ (.c (.cls .Sum) (some ["c", "a", "b"])) false).toOption
    = some ⟨["c", "a", "b"], ⟨[[1, 0], [0, 1], [-1, -1]], ["c", "a"]⟩,
        [[-1, -1], [0, 1], [1, 0], [0, 1]], false⟩ := by decide
-- the scope excludes a listed level that does not occur (D13, mirrored by the model as ValueError)
example : inScope ⟨["b", "a"], none⟩ (.c .none (some ["a", "b", "c"])) = false ∧
    (match evalSpelling ⟨["b", "a"], none⟩ (.c .none (some ["a", "b", "c"])) false with
      | .error .levelsDiffer => true
      | _ => false) = true := by decide

end FormulaeModel.C13
