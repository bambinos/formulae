import FormulaeModel.Properties.Bridge
import FormulaeModel.Proofs.ShapeExamples
/-
C04 — labels and columns of the evaluation model (Model/Design.lean, Model/Matrices.lean) agree:
products are enumerated in one order, treatment coding is the indicator of the level, and every
block and stacked matrix of a design has one entry per label in every row.
-/
namespace FormulaeModel.C04
open FormulaeModel.Design

/-- Labels and columns of an interaction of ANY arity, with ANY numbers of columns per component,
are enumerated in one common order: pairing the n-ary label product with the n-ary data product
of a row gives exactly the left fold of pairwise "join the labels with ':' and multiply the
entries" (first component slowest). -/
theorem C04_product_order (c : List String × List Entry) (comps : List (List String × List Entry))
    (hc : c.1.length = c.2.length) (h : ∀ d ∈ comps, d.1.length = d.2.length) :
    List.zip (reduceLabels (c.1 :: comps.map (·.1))) (reduceRows (c.2 :: comps.map (·.2)))
      = comps.foldl (fun acc d => interL colon acc (List.zip d.1 d.2)) (List.zip c.1 c.2) := by
  have := (zip_foldl_products colon comps c.1 c.2 hc h).1
  have he : interactionLabels = labelProd colon := by funext x y; rfl
  simpa [reduceLabels, reduceRows, he] using this

/-- … and there are as many labels as columns. -/
theorem C04_product_count (c : List String × List Entry) (comps : List (List String × List Entry))
    (hc : c.1.length = c.2.length) (h : ∀ d ∈ comps, d.1.length = d.2.length) :
    (reduceLabels (c.1 :: comps.map (·.1))).length = (reduceRows (c.2 :: comps.map (·.2))).length := by
  have := (zip_foldl_products colon comps c.1 c.2 hc h).2
  have he : interactionLabels = labelProd colon := by funext x y; rfl
  simpa [reduceLabels, reduceRows, he] using this

/-- The matrix product is the row product, row by row. -/
theorem C04_interaction_rows (x y : Matrix) (r : Nat) (hx : r < x.length) (hy : r < y.length) :
    (interactionMatrix x y)[r]'(by simp [interactionMatrix]; omega) = rowProd x[r] y[r] :=
  interactionMatrix_row x y r hx hy

/-- Group-specific block: the label `e|g` and the Khatri-Rao column (group slowest, effect
fastest) are enumerated in the same order. -/
theorem C04_group_label (groupLabels effectLabels : List String) (jr xr : List Entry)
    (hj : groupLabels.length = jr.length) (hx : effectLabels.length = xr.length) :
    List.zip (groupLabels.flatMap (fun g => effectLabels.map (fun l => l ++ "|" ++ g))) (rowProd jr xr)
      = interL bar (List.zip groupLabels jr) (List.zip effectLabels xr) :=
  zip_labelProd_rowProd bar groupLabels effectLabels jr xr hj hx

/-- Full treatment coding: the column labelled with level `levels[j]` holds, for a row whose
value is `levels[i]`, 1 exactly when the two levels are equal (all level counts, all positions). -/
theorem C04_indicator_full (levels : List Level) (hn : levels.Nodup) (i j : Nat)
    (hi : i < levels.length) (hj : j < levels.length) :
    ((treatmentFull levels).rows[i]'(by simp [treatmentFull]; exact hi))[j]'(by
        simp [treatmentFull, unitRow]; exact hj) = if levels[i] = levels[j] then 1 else 0 :=
  treatmentFull_indicator levels hn i j hi hj

theorem C04_labels_full (levels : List Level) :
    (treatmentFull levels).labels = levels.map Level.label := rfl

/-- Reduced treatment coding with any admissible reference: labels are the levels without the
reference, in order, and the column of label `j` is the indicator of that level; the reference row
is zero. -/
theorem C04_indicator_reduced (reference : Option Level) (levels : List Level) (hn : levels.Nodup)
    (cm : ContrastMatrix) (h : treatmentReduced reference levels = .ok cm) (hne : levels ≠ []) :
    ∃ r, ∃ hr : r < levels.length,
      cm.labels = (levels.eraseIdx r).map Level.label ∧
      ∀ i j (hi : i < levels.length) (hj : j < levels.length - 1),
        ∃ hrow : i < cm.rows.length,
          (cm.rows[i])[j]? = some (if levels[i] =
            (levels.eraseIdx r)[j]'(by rw [List.length_eraseIdx]; simp [hr]; exact hj) then 1 else 0) := by
  obtain ⟨r, hrdef, hrows, hlabels⟩ := treatmentReduced_ok reference levels cm h
  have hr : r < levels.length := by
    rcases hrdef with ⟨_, rfl⟩ | ⟨l, _, hl⟩
    · exact List.length_pos_iff.mpr hne
    · exact (indexOf?_some l levels r hl).1
  refine ⟨r, hr, ?_, ?_⟩
  · rw [hlabels, ← List.eraseIdx_eq_take_drop_succ]
  · intro i j hi hj
    refine ⟨by rw [hrows]; simp [reducedRows]; exact hi, ?_⟩
    have := reduced_indicator levels hn r i j hr hi hj
    simp only [hrows]
    exact this

-- non-vacuity: a three-way interaction with unequal column counts (2, 1, 3 columns)
example : List.zip (reduceLabels [["f[b]", "f[c]"], ["x"], ["g[u]", "g[v]", "g[w]"]])
    (reduceRows [[some 0, some 1], [some (5 / 2)], [some 1, some 0, some 0]])
    = [("f[b]:x:g[u]", some 0), ("f[b]:x:g[v]", some 0), ("f[b]:x:g[w]", some 0),
       ("f[c]:x:g[u]", some (5 / 2)), ("f[c]:x:g[v]", some 0), ("f[c]:x:g[w]", some 0)] := by
  decide +kernel


/-! ### design-level: labels and columns are equal in number, for the model's own top-level functions

Hypotheses: the data frame is rectangular (`Frame.wellFormed`) and every vector-like value bound in
the caller's namespace has one entry per row (`Env.namesSized`; implied by `Env.namesScalar`).

The theorems are named `_partial` because the guard on the namespace excludes inputs the code
accepts (a vector of the wrong length bound in the caller's namespace, see
`C17_trainComp_rows_counterexample`).  The guard is an artefact of the proof (row counts and column
counts are established together, and the row counts need it); no counterexample to the unguarded
column statements is known, and none is expected: no width in the model depends on a length. -/

/-- One component (`Variable` / `Call`, any expression, any coding flag): whenever the component has
labels, every row of its matrix has exactly one entry per label. -/
theorem C04_trainComp_labels_partial (env : Env) (name : String) (e : Expr) (forced isResponse full : Bool)
    (out : CompOut) (ls : List String) (hwf : env.frame.wellFormed = true)
    (hn : env.namesSized env.frame.nrows = true)
    (h : trainComp env name e forced isResponse full = .ok out) (hl : out.labels = some ls) :
    ∀ r ∈ out.value, r.length = ls.length :=
  ((trainComp_shape env hwf hn name e forced isResponse full out h).cols ls hl).1

/-- One term (main effect or interaction of any arity). -/
theorem C04_trainTerm_labels_partial (env : Env) (table : List (String × Expr)) (spec : TermSpec)
    (forced isResponse : Bool) (out : TermOut) (ls : List String)
    (hwf : env.frame.wellFormed = true) (hn : env.namesSized env.frame.nrows = true)
    (h : trainTerm env table spec forced isResponse = .ok out) (hl : out.labels = some ls) :
    ∀ r ∈ out.data, r.length = ls.length :=
  ((trainTerm_shape env hwf hn table spec forced isResponse out h).cols ls hl).1

/-- One group-specific term (the Khatri-Rao block). -/
theorem C04_trainGroup_labels_partial (env : Env) (table : List (String × Expr)) (spec : GroupSpec)
    (out : GroupOut) (ls : List String) (hwf : env.frame.wellFormed = true)
    (hn : env.namesSized env.frame.nrows = true)
    (h : trainGroup env table spec = .ok out) (hl : out.labels = some ls) :
    ∀ r ∈ out.data, r.length = ls.length :=
  ((trainGroup_shape env hwf hn table spec out h).cols ls hl).1

open FormulaeModel.Pipeline in
/-- The whole of `design_matrices` (every formula, frame, namespace, `na_action`): the response, every
common and group-specific term, and the stacked common and group matrices (labels = the
concatenation of the terms' labels). -/
theorem C04_design_labels_partial (table : Parser.Table) (ops : Resolver.OpTable) (actions : List String)
    (formula : String) (env : Env) (naAction : String) (built : Built)
    (hwf : env.frame.wellFormed = true) (hn : env.namesScalar = true)
    (h : designMatrices table ops actions formula env naAction = .ok built) :
    (∀ out, built.response = some out → ∀ ls, out.labels = some ls → ∀ r ∈ out.data, r.length = ls.length) ∧
    (∀ p ∈ built.common, ∀ out, p.2 = some out → ∀ ls, out.labels = some ls →
      ∀ r ∈ out.data, r.length = ls.length) ∧
    (∀ g ∈ built.group, ∀ ls, g.labels = some ls → ∀ r ∈ g.data, r.length = ls.length) ∧
    (∀ ls, (Driver.C04.commonStack built.frame.nrows built.trained).labels = some ls →
      ∀ r ∈ (Driver.C04.commonStack built.frame.nrows built.trained).matrix, r.length = ls.length) ∧
    (∀ ls, (Driver.C04.groupStack built.frame.nrows built.trained).labels = some ls →
      ∀ r ∈ (Driver.C04.groupStack built.frame.nrows built.trained).matrix, r.length = ls.length) := by
  have hs := designMatrices_shape table ops actions formula env naAction built hwf hn h
  refine ⟨?_, ?_, ?_, ?_, ?_⟩
  · intro out hout ls hls
    obtain ⟨k, hk⟩ := hs.response out hout
    exact (hk.cols ls hls).1
  · intro p hp out hout ls hls
    obtain ⟨k, _, ho⟩ := (hs.common p hp).2 out hout
    exact (ho.cols ls hls).1
  · intro g hg ls hls
    obtain ⟨ne, hgs⟩ := hs.group g hg
    exact (hgs.cols ls hls).1
  · intro ls hls
    rw [Built.commonStack_eq] at hls ⊢
    exact stack_labels_width _ _ (fun p hp => ((built.commonParts_shape hs).2 p hp).2.2) ls hls
  · intro ls hls
    rw [Built.groupStack_eq] at hls ⊢
    apply stack_labels_width _ _ _ ls hls
    intro q hq l hl
    simp only [Built.groupParts, List.mem_map] at hq
    obtain ⟨g, hg, rfl⟩ := hq
    obtain ⟨ne, hgs⟩ := hs.group g hg
    exact (hgs.cols l hl).1

/-! ### non-vacuity (inputs: Proofs/ShapeExamples.lean) -/
open FormulaeModel.ShapeEx

example : exEnv.frame.wellFormed = true ∧ exEnv.namesSized exEnv.frame.nrows = true ∧
    exEnvNA.frame.wellFormed = true ∧ exEnvNA.namesScalar = true := by decide

-- `C(f)`, reduced coding: 2 labels, 2 columns in each of the 4 rows
example : (match trainComp exEnv "C(f)" (exCall1 "C" (exVar "f")) false false false with
    | .ok o => o.labels == some ["C(f)[b]", "C(f)[c]"] && o.value.map List.length == [2, 2, 2, 2]
    | .error _ => false) = true := by decide +kernel
example (out : CompOut) (ls : List String)
    (h : trainComp exEnv "C(f)" (exCall1 "C" (exVar "f")) false false false = .ok out)
    (hl : out.labels = some ls) : ∀ r ∈ out.value, r.length = ls.length :=
  C04_trainComp_labels_partial exEnv _ _ _ _ _ out ls (by decide) (by decide) h hl

-- the interaction `C(f):x`
example : (match trainTerm exEnv exTable exTermSpec false false with
    | .ok o => o.labels == some ["C(f)[b]:x", "C(f)[c]:x"] && o.data.map List.length == [2, 2, 2, 2]
    | .error _ => false) = true := by decide +kernel
example (out : TermOut) (ls : List String) (h : trainTerm exEnv exTable exTermSpec false false = .ok out)
    (hl : out.labels = some ls) : ∀ r ∈ out.data, r.length = ls.length :=
  C04_trainTerm_labels_partial exEnv _ _ _ _ out ls (by decide) (by decide) h hl

-- `(x | g)`
example : (match trainGroup exEnv exTable exGroupSpec with
    | .ok o => o.labels == some ["x|g[u]", "x|g[v]"] && o.data.map List.length == [2, 2, 2, 2]
    | .error _ => false) = true := by decide +kernel
example (out : GroupOut) (ls : List String) (h : trainGroup exEnv exTable exGroupSpec = .ok out)
    (hl : out.labels = some ls) : ∀ r ∈ out.data, r.length = ls.length :=
  C04_trainGroup_labels_partial exEnv _ _ out ls (by decide) (by decide) h hl

-- `y ~ f + x + (x|g)` with `na_action = "drop"` on the frame with a missing cell
example : (match exDesign exEnvNA with
    | .ok b => (Driver.C04.commonStack b.frame.nrows b.trained).labels == some ["Intercept", "f[c]", "x"]
        && (Driver.C04.groupStack b.frame.nrows b.trained).labels
            == some ["1|g[u]", "1|g[v]", "x|g[u]", "x|g[v]"]
    | .error _ => false) = true := by decide +kernel
example (b : Pipeline.Built) (h : exDesign exEnvNA = .ok b) (ls : List String)
    (hl : (Driver.C04.commonStack b.frame.nrows b.trained).labels = some ls) :
    ∀ r ∈ (Driver.C04.commonStack b.frame.nrows b.trained).matrix, r.length = ls.length :=
  (C04_design_labels_partial _ _ _ _ exEnvNA _ b (by decide) (by decide) h).2.2.2.1 ls hl

end FormulaeModel.C04
