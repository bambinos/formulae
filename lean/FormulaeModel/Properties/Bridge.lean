import FormulaeModel.Proofs.Indicator
import FormulaeModel.Properties.C13
import FormulaeModel.Proofs.CodingBridge
/-
The two models of the contrast codings are one function: the evaluation model's coding
(Model/Design.lean, used by C04-C10, C15-C17) and the C13 model's coding
(Model/Coding.lean) return the same matrix and labels and fail in the same cases
(`coding_models_agree`, `coding_models_agree_levels`).  Hence the C13 results (shape, full rank with
the constant, columns summing to zero, refusal of an option naming no level) hold of the matrices
the evaluation model computes with.
-/
namespace FormulaeModel.Bridge
open FormulaeModel.Design FormulaeModel.Spec.C13

theorem reducedRows_eq (n r : Nat) (hr : r < n) :
    reducedRows n r = Proofs.Coding.reducedClosed n r 0 := by
  rw [reducedRows, unitRows_splice n r hr, Proofs.Coding.reduced_eq n r 0 hr]

/-- the reduced treatment matrix of the evaluation model has the C13 shape: reference row zero,
the other rows the unit vectors in level order, labels = levels without the reference -/
theorem design_treatmentReduced (levels : List String) (r : Nat) (hr : r < levels.length) :
    Spec.C13.treatmentReduced levels r (reducedRows levels.length r) (levels.eraseIdx r) = true := by
  rw [reducedRows_eq _ r hr]
  exact (Proofs.Coding.treatmentReduced_iff hr).mpr ⟨Proofs.Coding.entries_reducedClosed _ _ _, rfl⟩

/-- hence the reduced treatment coding of the evaluation model has full rank together with the
constant (C13_treatment_basis applies): for every number of levels and every reference -/
theorem design_treatment_basis (levels : List String) (r : Nat) (hr : r < levels.length) :
    treatmentBasis levels.length r (reducedRows levels.length r) = true :=
  (C13.C13_treatment_basis levels r _ _ hr (design_treatmentReduced levels r hr)).1

/-- **Agreement for levels of any type**: the evaluation model's coding of `levels` is the C13
model's coding of `str(level)` (integer levels of `C(k)` / integer grouping columns are seen by the
code through `str`), provided `str` does not identify the option with a different level. -/
theorem coding_models_agree_levels (c : Design.Contrast) (full : Bool) (levels : List Level)
    (hne : levels ≠ [])
    (hinj : ∀ x, Design.Contrast.option c = some x → ∀ b, b ∈ levels → x.label = b.label → x = b) :
    viewD (Design.Contrast.code c full levels) =
      viewC (Coding.Contrast.code (toCoding c) full (levels.map Level.label)) := by
  cases c with
  | treatment r =>
    cases full
    · simpa [Design.Contrast.code, Coding.Contrast.code, toCoding,
        Coding.Contrast.codeWithoutIntercept] using treatmentReduced_agree_levels r levels hne hinj
    · simp only [viewD, viewC, Design.Contrast.code, Coding.Contrast.code, toCoding,
        Coding.Contrast.codeWithIntercept, Design.treatmentFull, Coding.Treatment.codeWithIntercept,
        pure, Except.pure, eye_eq_unitRows, List.length_map, if_true]
  | sum o =>
    have h := sumReduced_agree_levels o levels hne hinj
    cases full
    · simpa [Design.Contrast.code, Coding.Contrast.code, toCoding,
        Coding.Contrast.codeWithoutIntercept] using h
    · simp only [Design.Contrast.code, Coding.Contrast.code, toCoding,
        Coding.Contrast.codeWithIntercept, Design.sumFull, Coding.Sum.codeWithIntercept, bind,
        Except.bind, if_true]
      cases hd : Design.sumReduced o levels <;>
        cases hc : Coding.Sum.codeWithoutIntercept (o.map Level.label) (levels.map Level.label) <;>
        simp_all [viewD, viewC, pure, Except.pure, Coding.columnStackOnes]

/-- **Agreement of the coding models**: same matrix, same labels, errors in the same cases.
`str` is the identity on strings, so nothing is asked of the levels. -/
theorem coding_models_agree (c : Coding.Contrast) (full : Bool) (levels : List String)
    (hne : levels ≠ []) :
    viewD (Design.Contrast.code (toDesign c) full (levels.map Level.s)) =
      viewC (Coding.Contrast.code c full levels) := by
  have h := coding_models_agree_levels (toDesign c) full (levels.map Level.s) (by simpa using hne) ?_
  · rwa [toCoding_toDesign, labels_full] at h
  · intro x hx b hb hl
    obtain ⟨y, _, rfl⟩ := List.mem_map.mp hb
    cases c <;> rename_i o <;> cases o <;> simp [toDesign, Design.Contrast.option] at hx <;>
      subst hx <;> exact congrArg Level.s hl

theorem treatmentReduced_agree (r : Option String) (levels : List String) (hne : levels ≠ []) :
    viewD (Design.treatmentReduced (r.map Level.s) (levels.map Level.s)) =
      viewC (Coding.Treatment.codeWithoutIntercept r levels) :=
  coding_models_agree (.treatment r) false levels hne

theorem sumReduced_agree (o : Option String) (levels : List String) (hne : levels ≠ []) :
    viewD (Design.sumReduced (o.map Level.s) (levels.map Level.s)) =
      viewC (Coding.Sum.codeWithoutIntercept o levels) :=
  coding_models_agree (.sum o) false levels hne

/-- premises satisfiable, result non-trivial: Sum coding of three levels omitting the second -/
example :
    viewD (Design.Contrast.code (toDesign (.sum (some "b"))) true (["a", "b", "c"].map Level.s)) =
      some ([[1, 1, 0], [1, -1, -1], [1, 0, 1]], ["mean", "a", "c"]) := by decide

/-- the hypothesis cannot be dropped: the option `"2"` (a string) is no level of `[1, 2, 3]`
for the evaluation model, but `str` makes it one. -/
theorem coding_models_agree_levels_counterexample :
    viewD (Design.Contrast.code (.treatment (some (.s "2"))) false [.n 1, .n 2, .n 3]) = none ∧
    viewC (Coding.Contrast.code (toCoding (.treatment (some (.s "2")))) false
      ([Level.n 1, .n 2, .n 3].map Level.label)) ≠ none := by
  decide

example : viewD (Design.Contrast.code (.sum (some (.n 2))) false [.n 1, .n 2, .n 3]) =
    some ([[1, 0], [-1, -1], [0, 1]], ["1", "3"]) := by decide

theorem transfer {d : Design.M Design.ContrastMatrix} {c : Except Coding.Err Coding.ContrastMatrix}
    {cm : Coding.ContrastMatrix} (h : viewD d = viewC c) (hc : c = .ok cm) :
    ∃ cm', d = .ok cm' ∧ cm'.rows = cm.matrix ∧ cm'.labels = cm.labels := by
  subst hc
  cases d with
  | error e => simp [viewD, viewC] at h
  | ok cm' =>
    simp only [viewD, viewC, Option.some.injEq, Prod.mk.injEq] at h
    exact ⟨cm', rfl, h.1, h.2⟩

theorem transfer_error {d : Design.M Design.ContrastMatrix}
    {c : Except Coding.Err Coding.ContrastMatrix} {e : Coding.Err} (h : viewD d = viewC c)
    (hc : c = .error e) : ∃ e', d = .error e' := by
  subst hc
  cases d with
  | error e' => exact ⟨e', rfl⟩
  | ok cm => simp [viewD, viewC] at h

/-- The reduced Sum coding *of the evaluation model* has the C13 shape and every column sums to
zero, for every omitted level that is a level. -/
theorem design_sum_zero (omitted : Option String) (levels : List String) (o : Nat)
    (h : omitIndex? omitted levels = some o) :
    ∃ cm, Design.sumReduced (omitted.map Level.s) (levels.map Level.s) = .ok cm ∧
      Spec.C13.sumReduced levels o cm.rows cm.labels = true ∧
      ∀ j, j < levels.length - 1 → colSum cm.rows levels.length j = 0 := by
  obtain ⟨cm, hc, hs, hz⟩ := C13.C13_sum_zero omitted levels o h
  have hne := List.length_pos_iff.mp (Nat.zero_lt_of_lt (Proofs.Coding.omitIndex_lt h))
  obtain ⟨cm', hd, hr, hl⟩ := transfer (sumReduced_agree omitted levels hne) hc
  exact ⟨cm', hd, by rw [hr, hl]; exact hs, by rw [hr]; exact hz⟩

/-- … and is a basis together with the constant (C13_sum_basis applies to it). -/
theorem design_sum_basis (omitted : Option String) (levels : List String) (o : Nat)
    (h : omitIndex? omitted levels = some o) :
    ∃ cm, Design.sumReduced (omitted.map Level.s) (levels.map Level.s) = .ok cm ∧
      sumBasis levels.length o cm.rows = true := by
  obtain ⟨cm, hd, hs, _⟩ := design_sum_zero omitted levels o h
  exact ⟨cm, hd, (C13.C13_sum_basis levels o cm.rows cm.labels (Proofs.Coding.omitIndex_lt h) hs).1⟩

/-- The reduced Treatment coding of the evaluation model, for every reference that is a level:
C13 shape and basis with the constant. -/
theorem design_treatment_model (reference : Option String) (levels : List String) (r : Nat)
    (h : referenceIndex? reference levels = some r) :
    ∃ cm, Design.treatmentReduced (reference.map Level.s) (levels.map Level.s) = .ok cm ∧
      Spec.C13.treatmentReduced levels r cm.rows cm.labels = true ∧
      treatmentBasis levels.length r cm.rows = true := by
  obtain ⟨cm, hc, hs⟩ := C13.C13_treatment_shape reference levels r h
  have hne := List.length_pos_iff.mp (Nat.zero_lt_of_lt (Proofs.Coding.referenceIndex_lt h))
  obtain ⟨cm', hd, hr, hl⟩ := transfer (treatmentReduced_agree reference levels hne) hc
  refine ⟨cm', hd, by rw [hr, hl]; exact hs, ?_⟩
  rw [hr]
  exact (C13.C13_treatment_basis levels r cm.matrix cm.labels (Proofs.Coding.referenceIndex_lt h) hs).1

/-- An option naming no level is refused by the evaluation model too. -/
theorem design_rejects (levels : List String) (hne : levels ≠ []) :
    (∀ reference, referenceIndex? reference levels = none →
      ∃ e, Design.treatmentReduced (reference.map Level.s) (levels.map Level.s) = .error e) ∧
    (∀ omitted, omitIndex? omitted levels = none →
      ∃ e, Design.sumReduced (omitted.map Level.s) (levels.map Level.s) = .error e) := by
  constructor
  · intro reference h
    obtain ⟨e, he⟩ := C13.C13_treatment_rejects reference levels h
    exact transfer_error (treatmentReduced_agree reference levels hne) he
  · intro omitted h
    obtain ⟨⟨e, he⟩, _⟩ := C13.C13_sum_rejects omitted levels h
    exact transfer_error (sumReduced_agree omitted levels hne) he

end FormulaeModel.Bridge
