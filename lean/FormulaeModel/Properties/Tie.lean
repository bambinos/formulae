import FormulaeModel.Generated.Tables
import FormulaeModel.Spec.C01
/-
The tie between the parser tables regenerated from /repo's working tree (Generated/Tables.lean)
and the table `Spec/C01` is written against.  Every statement is closed by `decide`, so a change
of the table in the source breaks this file.  The resolver's operator map and the call resolver's
tables are tied in the same way at the head of `Properties/C02.lean` and `Properties/C12.lean`.
-/
namespace FormulaeModel.Tie

theorem parser_shape : Generated.parserShapeOk = true := by decide
theorem parser_table : Generated.parserTable = Spec.C01.documentedTable := by decide
theorem parser_table_wf : Spec.C01.TableWF Generated.parserTable = true := by decide

end FormulaeModel.Tie
