import FormulaeModel.Spec.C10
import FormulaeModel.Generated.Tables
import FormulaeModel.Properties.C05
import FormulaeModel.Proofs.GroupBlockNew
/-
C10 — theorems about the model of `eval_new_data_categoric`, `GroupSpecificTerm.eval_new_data`
and `Config`.
-/
namespace FormulaeModel.C10
open FormulaeModel.Design

/-- **error mode**: evaluation raises when some value is unseen; when none is, the result is the
coded rows and no warning. -/
theorem C10_error_iff (st : CompState) (cm : ContrastMatrix) (hc : st.contrast = some cm)
    (xs : List (Option Level)) :
    (xs.any (isUnseen st.levels) = true →
      newCategoric st .error xs = .error (.valueError "levels not present in the original data set")) ∧
    (xs.any (isUnseen st.levels) = false →
      newCategoric st .error xs = (codeRows cm st.levels xs).map (fun m => (m, false))) := by
  constructor
  · intro h
    simp only [newCategoric, hc, h, bind, Except.bind]
    rfl
  · intro h
    simp only [newCategoric, hc, h, bind, Except.bind, pure, Except.pure]
    cases codeRows cm st.levels xs <;> rfl

/-- **warning / silent mode**: the result has one row per input value; the row of an unseen
value is all zeros (as wide as the coding), the row of a seen value is its row of the remembered
contrast matrix; a warning is issued exactly in `warning` mode. -/
theorem C10_zero_rows (st : CompState) (cm : ContrastMatrix) (hc : st.contrast = some cm)
    (mode : UnseenMode) (hm : mode ≠ .error) (xs : List (Option Level))
    (h : xs.any (isUnseen st.levels) = true) :
    newCategoric st mode xs = .ok
      (xs.map (fun x =>
        match x.bind (fun l => indexOf? l st.levels) with
        | some i => rowOfInts (cm.rows.getD i [])
        | none => List.replicate cm.labels.length (some (0 : Rat))),
       mode == .warning) := by
  have hme : (mode == UnseenMode.error) = false := by
    cases mode <;> simp_all
  simp only [newCategoric, hc, h, hme, bind, Except.bind, pure, Except.pure]
  rfl

/-- an unseen value has no index among the levels (so `C10_zero_rows` gives it the zero row) -/
theorem C10_unseen_row_zero (levels : List Level) (x : Option Level) (h : isUnseen levels x = true) :
    x.bind (fun l => indexOf? l levels) = none :=
  (levelIndex_none_iff levels x).2 h

/-- a zero row makes every interaction column involving it zero (no missing values) -/
theorem C10_interaction_zero_left (w : Nat) (y : List Rat) :
    rowProd (List.replicate w (some (0 : Rat))) (y.map some) =
      List.replicate (w * y.length) (some (0 : Rat)) := by
  have := rowProd_zeroE_left w (y.map some) (allSome_map_some y)
  rwa [List.length_map] at this

theorem C10_interaction_zero_right (x : List Rat) (w : Nat) :
    rowProd (x.map some) (List.replicate w (some (0 : Rat))) =
      List.replicate (x.length * w) (some (0 : Rat)) := by
  have := rowProd_zeroE_right (x.map some) (allSome_map_some x) w
  rwa [List.length_map] at this

/-- **new group**: an observation of an unseen group has the indicator row of the appended
(G+1)-th group, so (C05_block_row with G+1 groups) every existing slot is zero and the trailing
slot carries the effect values. -/
theorem C10_new_group_block (G : Nat) (x : List Rat) (g' k : Nat) (hg' : g' < G + 1)
    (hk : k < x.length) :
    (rowProd (C05.indicatorRow (G + 1) G) (x.map some))[g' * x.length + k]? =
      some (some (if g' = G then x[k] else 0)) :=
  C05.C05_block_row_values (G + 1) G x g' k hg' hk

/-- the appended indicator: all-zero rows get 1, the others 0, in one extra trailing column -/
theorem C10_appended_column (ji : Matrix) (isZeroRow : List Entry → Bool) (r : Nat) (hr : r < ji.length) :
    (ji.map (fun row => row ++ [some (if isZeroRow row then (1 : Rat) else 0)]))[r]'(by simpa using hr)
      = ji[r] ++ [some (if isZeroRow ji[r] then 1 else 0)] := by
  simp

theorem config_set_ok (fields : Config.Fields) (st : Config.State) (key value : String) :
    (∃ st', Config.set fields st key value = .ok st') ↔
      ∃ f, fields.find? (·.1 == key) = some f ∧ f.2.contains value = true := by
  unfold Config.set
  cases fields.find? (·.1 == key) with
  | none => simp
  | some f => by_cases hv : value ∈ f.2 <;> simp [hv]

/-- **configuration**: a key/value pair is accepted iff it is a documented field with a
documented value; the default is the first choice (`error`). -/
theorem C10_config_accepts (st : Config.State) (key value : String) :
    (∃ st', Config.set Spec.C10.documentedFields st key value = .ok st') ↔
      key = "EVAL_UNSEEN_CATEGORIES" ∧ (value = "error" ∨ value = "warning" ∨ value = "silent") := by
  rw [config_set_ok]
  by_cases hk : key = "EVAL_UNSEEN_CATEGORIES"
  · simp [Spec.C10.documentedFields, hk]
  · simp [Spec.C10.documentedFields, hk, Ne.symm hk]

theorem C10_config_default :
    Config.get (Config.init Spec.C10.documentedFields) "EVAL_UNSEEN_CATEGORIES" = .ok "error" := by
  rfl

/-- tie: the field table read from config.py is the documented one -/
theorem config_tie : Generated.configFields = Spec.C10.documentedFields := by decide
theorem config_shape : Generated.configShapeOk = true := by decide

theorem config_get_set (fields : Config.Fields) (st st' : Config.State) (key v : String)
    (h : Config.set fields st key v = .ok st') : Config.get st' key = .ok v := by
  unfold Config.set at h
  split at h
  · cases h
  · split at h
    · simp only [Except.ok.injEq] at h
      subst h
      split
      · rename_i hany
        simp only [Config.get]
        induction st with
        | nil => simp at hany
        | cons p st ih =>
          simp only [List.map_cons, List.find?_cons]
          by_cases hp : p.1 = key
          · simp [hp]
          · have hp' : (p.1 == key) = false := by simpa using hp
            simp only [hp', Bool.false_eq_true, if_false]
            simp only [List.any_cons, hp', Bool.false_or] at hany
            exact ih hany
      · rename_i hany
        simp only [Config.get]
        have hnone : st.find? (fun p => p.1 == key) = none := by
          rw [List.find?_eq_none]
          intro p hp
          simp only [List.any_eq_true, not_exists, not_and, Bool.not_eq_true] at hany
          simp [hany p hp]
        simp [List.find?_append, hnone]
    · cases h

/-- after any sequence of accepted settings the value read is the last one set (the mode in force
at evaluation time is the current one) -/
theorem C10_config_last_wins (st st' : Config.State) (v : String)
    (h : Config.set Spec.C10.documentedFields st "EVAL_UNSEEN_CATEGORIES" v = .ok st') :
    Config.get st' "EVAL_UNSEEN_CATEGORIES" = .ok v :=
  config_get_set _ st st' _ v h

/-! ## Term level: `newGroup` on the state `trainGroup` leaves

The theorems below are about the model's own `newGroup` (`GroupSpecificTerm.eval_new_data`) applied
to the state remembered by `trainGroup`.  `cols` are the grouping values read from the new frame
(`newFactorColumns`), `rowCell … r` the cell of new row `r` among the *training* levels (`none`:
some grouping value of the row was not seen in training), `C05.cells` the number of training
cells `G`.  The coding hypothesis `C05.IndicatorCoded` is the one of C05 (it holds for plain
variables: `C05_plain_factor_indicatorCoded`). -/

theorem factorState_of_trainGroup (env : Env) (table : List (String × Expr)) (spec : GroupSpec)
    (out : GroupOut) (h : trainGroup env table spec = .ok out) (ht : C05.IndicatorCoded out.st) :
    FactorState out.st.factor.comps :=
  ⟨(trainGroup_factor_state env table spec out h).1, ht⟩

/-- **new-group rule, `error` mode**: if the effect part evaluates and some grouping value of the
new data was not seen in training, the evaluation raises the unseen-levels ValueError. -/
theorem C10_newGroup_error (env : Env) (table : List (String × Expr)) (spec : GroupSpec) (out : GroupOut)
    (h : trainGroup env table spec = .ok out) (ht : C05.IndicatorCoded out.st)
    (env' : Env) (cols : List (List (Option Level)))
    (hcols : newFactorColumns out.st.factor.comps env' = .ok cols)
    (p : Matrix × Bool) (hp : newEffect out.st env' .error = .ok p)
    (hu : anyUnseen out.st.factor.comps cols = true) :
    newGroup out.st env' .error = .error (.valueError "levels not present in the original data set") :=
  newGroup_error out.st (factorState_of_trainGroup env table spec out h ht) env' cols hcols p hp hu

/-- **new-group rule, the block** (all modes).  If `newGroup` returns `(M, w)` then: in `error`
mode no grouping value is unseen; a warning is issued iff the effect part warned or (mode
`warning` and some value is unseen); and every row `r` of `M` is the Kronecker row of an indicator
row with the effect row `x = X[r]`:
* if no row of the new indicator matrix is unseen — the training structure, `G` slots, the row's
  own cell carries `x`;
* if some row is unseen — `G + 1` slots: a row of a known cell keeps its training slot, a row
  with an unseen grouping value is zero in all `G` training slots and carries `x` in the appended
  slot `G`. -/
theorem C10_newGroup_block (env : Env) (table : List (String × Expr)) (spec : GroupSpec) (out : GroupOut)
    (h : trainGroup env table spec = .ok out) (ht : C05.IndicatorCoded out.st)
    (env' : Env) (mode : UnseenMode) (cols : List (List (Option Level)))
    (hcols : newFactorColumns out.st.factor.comps env' = .ok cols)
    (M : Matrix) (w : Bool) (hnew : newGroup out.st env' mode = .ok (M, w)) :
    ∃ X w1, newEffect out.st env' mode = .ok (X, w1) ∧
      (mode = .error → anyUnseen out.st.factor.comps cols = false) ∧
      w = (w1 || (anyUnseen out.st.factor.comps cols && mode == .warning)) ∧
      ∀ r (hr : r < M.length), ∃ x, X[r]? = some x ∧
        ((∀ r', r' < (newFactorMatrix out.st.factor.comps cols).length →
            (rowCell (out.st.factor.comps.map (·.levels)) cols r').isSome = true) →
          ∃ ps, rowCell (out.st.factor.comps.map (·.levels)) cols r = some ps ∧
            cellIndex 0 ps < C05.cells out.st ∧
            M[r] = rowProd (C05.indicatorRow (C05.cells out.st) (cellIndex 0 ps)) x) ∧
        ((∃ r', r' < (newFactorMatrix out.st.factor.comps cols).length ∧
            rowCell (out.st.factor.comps.map (·.levels)) cols r' = none) →
          (∀ ps, rowCell (out.st.factor.comps.map (·.levels)) cols r = some ps →
            M[r] = rowProd (C05.indicatorRow (C05.cells out.st + 1) (cellIndex 0 ps)) x) ∧
          (rowCell (out.st.factor.comps.map (·.levels)) cols r = none →
            M[r] = rowProd (C05.indicatorRow (C05.cells out.st + 1) (C05.cells out.st)) x)) := by
  obtain ⟨X, w1, hX, hne, hw, hany, hrows⟩ :=
    newGroup_block out.st (factorState_of_trainGroup env table spec out h ht) env' mode cols hcols M w hnew
  refine ⟨X, w1, hX, ?_, hw, ?_⟩
  · intro hm
    subst hm
    simpa using hne
  · intro r hr
    obtain ⟨x, hx, hrJ, hA, hB⟩ := hrows r hr
    refine ⟨x, hx, ?_, ?_⟩
    · intro hall
      apply hA
      cases hz : (newFactorMatrix out.st.factor.comps cols).any isZeroRow with
      | false => rfl
      | true =>
        obtain ⟨r', hr', hnone⟩ := hany.1 hz
        have := hall r' hr'
        rw [hnone] at this
        exact absurd this (by decide)
    · intro hex
      have hB' := hB (hany.2 hex)
      constructor
      · intro ps hps
        rw [hps] at hB'
        exact hB'
      · intro hnone
        rw [hnone] at hB'
        exact hB'

/-- … entry by entry for a row with an unseen grouping value: all `G` training slots hold
`0 · x[k]` (`0` where the effect value is a number, NaN where it is NaN), the appended slot holds
the effect row. -/
theorem C10_newGroup_unseen_entries (G : Nat) (x : List Entry) (row : List Entry)
    (hrow : row = rowProd (C05.indicatorRow (G + 1) G) x) :
    row.length = (G + 1) * x.length ∧
    ∀ g' k (_ : g' < G + 1) (hk : k < x.length),
      row[g' * x.length + k]? = some (if g' = G then x[k] else x[k].map (fun _ => 0)) := by
  subst hrow
  refine ⟨C05.C05_block_width _ _ _, ?_⟩
  intro g' k hg' hk
  exact C05.block_row_entries _ _ x g' k hg' hk

/-- **new-group rule for a single plain grouping variable** `(e | g)`: no coding hypothesis.
`levels` are the training levels (the specification's `componentLevels` on the training frame),
`xs'` the values of `g` in the new frame (the specification's `componentValues` on the new frame),
`G = |levels|`.  `error` mode: no unseen value (else `C10_newGroup_error`).  Otherwise, row by row:
no unseen value anywhere — the training structure; some unseen value — `G + 1` slots, a known
group `g` keeps slot `g`, an unseen (or missing) group is zero in the `G` training slots and
carries the effect row in slot `G`. -/
theorem C10_newGroup_single (env : Env) (table : List (String × Expr)) (spec : GroupSpec) (out : GroupOut)
    (name : String) (flag : Bool) (x : Token)
    (hf : spec.factor.comps = [(name, flag)]) (hx : compExpr table name = .ok (.variable x))
    (h : trainGroup env table spec = .ok out)
    (env' : Env) (mode : UnseenMode) (cols : List (List (Option Level)))
    (hcols : newFactorColumns out.st.factor.comps env' = .ok cols)
    (M : Matrix) (w : Bool) (hnew : newGroup out.st env' mode = .ok (M, w)) :
    ∃ c xs' X w1, out.st.factor.comps = [c] ∧
      Spec.C05.componentLevels env table name = .ok c.levels ∧ cols = [xs'] ∧
      Spec.C05.componentValues env' table name = .ok xs' ∧
      newEffect out.st env' mode = .ok (X, w1) ∧
      (mode = .error → xs'.any (isUnseen c.levels) = false) ∧
      w = (w1 || (xs'.any (isUnseen c.levels) && mode == .warning)) ∧
      ∀ r (hr : r < M.length), ∃ xr, X[r]? = some xr ∧ r < xs'.length ∧
        (xs'.any (isUnseen c.levels) = false → ∃ l g, xs'[r]? = some (some l) ∧
          indexOf? l c.levels = some g ∧ g < c.levels.length ∧
          M[r] = rowProd (C05.indicatorRow c.levels.length g) xr) ∧
        (xs'.any (isUnseen c.levels) = true →
          (∀ g, levelIndex c.levels (xs'.getD r none) = some g →
            M[r] = rowProd (C05.indicatorRow (c.levels.length + 1) g) xr) ∧
          (isUnseen c.levels (xs'.getD r none) = true →
            M[r] = rowProd (C05.indicatorRow (c.levels.length + 1) c.levels.length) xr)) := by
  obtain ⟨c, hc, hname, hexpr, hlevels, ht, hcells⟩ := C05.C05_single_component env table spec out name flag x hf hx h
  have hS := factorState_of_trainGroup env table spec out h ht
  obtain ⟨X, w1, hX, hne, hw, hany, hrows⟩ := newGroup_block out.st hS env' mode cols hcols M w hnew
  rw [hc] at hcols
  simp only [newFactorColumns, List.mapM_cons, List.mapM_nil, bind_ok, pure_ok] at hcols
  obtain ⟨xs', ⟨v', hv', hxs'⟩, _, rfl, rfl⟩ := hcols
  have hcall : isCallLike c.expr = false := by rw [hexpr]; rfl
  rw [newFactorVal_plain c env' hcall, hname, hexpr] at hv'
  have hvals := componentValues_eq env' table name _ hx rfl v' xs' hv' hxs'
  -- one component: cells are positions among its levels, zero rows are unseen values
  have hcell : ∀ r, rowCell (out.st.factor.comps.map (·.levels)) [xs'] r =
      (levelIndex c.levels (xs'.getD r none)).map (fun g => [(c.levels.length, g)]) := by
    intro r
    rw [hc]
    exact rowCell_single _ _ r
  have hunseen : anyUnseen out.st.factor.comps [xs'] = xs'.any (isUnseen c.levels) := by
    rw [hc, anyUnseen_single]
  have hJ : newFactorMatrix out.st.factor.comps [xs'] = xs'.map (indRow c.levels) := by
    rw [hc]; rfl
  have hzero : (newFactorMatrix out.st.factor.comps [xs']).any isZeroRow = xs'.any (isUnseen c.levels) := by
    rw [hc, any_zero_single, anyUnseen_single]
  rw [hunseen] at hne hw
  refine ⟨c, xs', X, w1, hc, hlevels, rfl, hvals, hX, ?_, hw, ?_⟩
  · intro hm
    subst hm
    simpa using hne
  · intro r hr
    obtain ⟨xr, hxr, hrJ, hA, hB⟩ := hrows r hr
    rw [hJ, List.length_map] at hrJ
    rw [hzero, show cellCount 1 (out.st.factor.comps.map (·.levels.length)) = c.levels.length from hcells,
      hcell r] at hA hB
    refine ⟨xr, hxr, hrJ, ?_, ?_⟩
    · intro hfalse
      obtain ⟨ps, hps, _, hrow⟩ := hA hfalse
      cases hli : levelIndex c.levels (xs'.getD r none) with
      | none => rw [hli] at hps; cases hps
      | some g =>
        rw [hli] at hps
        cases hps
        obtain ⟨l, hx, hg⟩ := levelIndex_getD _ _ _ _ hli
        exact ⟨l, g, hx, hg, levelIndex_lt _ _ _ hli, by
          rw [hrow]; simp [cellIndex, C05.unitE_eq_indicatorRow]⟩
    · intro htrue
      have hrow := hB htrue
      constructor
      · intro g hg
        rw [hg] at hrow
        rw [hrow]
        simp [newSlot, cellIndex, C05.unitE_eq_indicatorRow]
      · intro hu
        rw [(levelIndex_none_iff _ _).2 hu] at hrow
        rw [hrow]
        simp [newSlot, C05.unitE_eq_indicatorRow]

/-! ### non-vacuity: `(x | g)` trained on groups b, a, b; new data with the groups a, z -/

def exNew : Env :=
  { frame := [⟨"g", .string, [.str "a", .str "z"]⟩, ⟨"x", .numeric false, [.num 3, .num 5]⟩] }
def exKnown : Env :=
  { frame := [⟨"g", .string, [.str "a", .str "b"]⟩, ⟨"x", .numeric false, [.num 3, .num 5]⟩] }

def newOf (r : M GroupOut) (env' : Env) (mode : UnseenMode) : Option (Option (Matrix × Bool)) :=
  match r with
  | .ok o => some (match newGroup o.st env' mode with
    | .ok p => some p
    | .error _ => none)
  | .error _ => none

-- z is unseen: silent / warning append the slot, error raises; without unseen groups nothing is appended
example : newOf (trainGroup C05.exEnv C05.exTable C05.exSlope) exNew .silent =
    some (some ([[some 3, some 0, some 0], [some 0, some 0, some 5]], false)) := by decide +kernel
example : newOf (trainGroup C05.exEnv C05.exTable C05.exSlope) exNew .warning =
    some (some ([[some 3, some 0, some 0], [some 0, some 0, some 5]], true)) := by decide +kernel
example : newOf (trainGroup C05.exEnv C05.exTable C05.exSlope) exNew .error = some none := by
  decide +kernel
example : newOf (trainGroup C05.exEnv C05.exTable C05.exSlope) exKnown .error =
    some (some ([[some 3, some 0], [some 0, some 5]], false)) := by decide +kernel
-- the hypotheses of the theorems hold for this input
example : C05.holdsOf (trainGroup C05.exEnv C05.exTable C05.exSlope) (fun o =>
    decide (C05.IndicatorCoded o.st) &&
    C05.okEq (newFactorColumns o.st.factor.comps exNew) [[some (.s "a"), some (.s "z")]] &&
    anyUnseen o.st.factor.comps [[some (.s "a"), some (.s "z")]] &&
    C05.okEq (newEffect o.st exNew .error) ([[some 3], [some 5]], false) &&
    (rowCell (o.st.factor.comps.map (·.levels)) [[some (.s "a"), some (.s "z")]] 0 == some [(2, 0)]) &&
    (rowCell (o.st.factor.comps.map (·.levels)) [[some (.s "a"), some (.s "z")]] 1 == none) &&
    (newFactorMatrix o.st.factor.comps [[some (.s "a"), some (.s "z")]]).length == 2) = true := by
  decide +kernel

example : ∀ out M w, trainGroup C05.exEnv C05.exTable C05.exSlope = .ok out →
    newFactorColumns out.st.factor.comps exNew = .ok [[some (.s "a"), some (.s "z")]] →
    newGroup out.st exNew .silent = .ok (M, w) →
    ∃ c xs' X w1, out.st.factor.comps = [c] ∧
      Spec.C05.componentLevels C05.exEnv C05.exTable "g" = .ok c.levels ∧
      [[some (Level.s "a"), some (Level.s "z")]] = [xs'] ∧
      Spec.C05.componentValues exNew C05.exTable "g" = .ok xs' ∧
      newEffect out.st exNew .silent = .ok (X, w1) ∧
      (UnseenMode.silent = .error → xs'.any (isUnseen c.levels) = false) ∧
      w = (w1 || (xs'.any (isUnseen c.levels) && UnseenMode.silent == .warning)) ∧
      ∀ r (hr : r < M.length), ∃ xr, X[r]? = some xr ∧ r < xs'.length ∧
        (xs'.any (isUnseen c.levels) = false → ∃ l g, xs'[r]? = some (some l) ∧
          indexOf? l c.levels = some g ∧ g < c.levels.length ∧
          M[r] = rowProd (C05.indicatorRow c.levels.length g) xr) ∧
        (xs'.any (isUnseen c.levels) = true →
          (∀ g, levelIndex c.levels (xs'.getD r none) = some g →
            M[r] = rowProd (C05.indicatorRow (c.levels.length + 1) g) xr) ∧
          (isUnseen c.levels (xs'.getD r none) = true →
            M[r] = rowProd (C05.indicatorRow (c.levels.length + 1) c.levels.length) xr)) :=
  fun out M w h hcols hnew => C10_newGroup_single C05.exEnv C05.exTable C05.exSlope out "g" false
    (C05.tk .IDENTIFIER "g") rfl rfl h exNew .silent _ hcols M w hnew

end FormulaeModel.C10
