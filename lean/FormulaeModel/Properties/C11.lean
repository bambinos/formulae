import FormulaeModel.Proofs.Env
import FormulaeModel.Model.EnvWiring
/-
C11 — name resolution order and evaluation environment, for arbitrary scopes, call stacks, depth
and names.  Stated for the documented wiring; `tie_wiring` shows that the wiring regenerated from
the source is that one, and `C11_holds_generated` transports the main statement to it.
-/
namespace FormulaeModel.C11
open FormulaeModel.Env FormulaeModel.Spec.C11

theorem tie_shape : Generated.envShapeOk = true := by decide
theorem tie_wiring : Env.generatedWiring = documentedWiring := by decide +kernel
theorem tie_reference : Generated.captureReference = 1 := by decide
theorem tie_frame_scopes : Generated.frameScopes = ["f_locals", "f_globals"] := by decide +kernel
theorem tie_call_env_order : Generated.callEnvOrder = ["builtins", "outer"] := by decide +kernel
theorem tie_lazy_variable_order : Generated.lazyVariableOrder = ["data", "env"] := by decide +kernel
theorem tie_builtins_keys : builtinsKeysWF Generated.builtinsKeys = true := by decide +kernel

local notation "W" => documentedWiring

@[simp] private theorem w_reference : documentedWiring.reference = 1 := rfl
@[simp] private theorem w_loop : documentedWiring.captureLoopExtra = 1 := rfl
@[simp] private theorem w_frame : documentedWiring.frameScopes = ["f_locals", "f_globals"] := rfl
@[simp] private theorem w_call : documentedWiring.callEnvOrder = ["builtins", "outer"] := rfl
@[simp] private theorem w_lazy : documentedWiring.lazyVariableOrder = ["data", "env"] := rfl
@[simp] private theorem w_leading : documentedWiring.leadingEmptyDict = true := rfl
@[simp] private theorem w_outer : documentedWiring.outerAppended = true := rfl

/-- `VarLookupDict(ss)[n]` for any number of dicts of any size: the value is `v` exactly when
some dict `i` binds `n` to `v` and no earlier dict binds `n` (the leading `{}` never does). -/
theorem C11_first_match (ss : List Scope) (n : String) (v : Val) :
    (VarLookupDict.new W (ss.map Ns.dict)).lookup n = some v ↔
      ∃ i s, ss[i]? = some s ∧ s.lookup n = some v ∧
        ∀ (j : Nat) t, j < i → ss[j]? = some t → t.lookup n = none := by
  rw [lookup_new, flattenList_map_dict, firstMatch_iff]
  simp only [lookup_eq_binds]

/-- `__getitem__` raises `KeyError` exactly when no dict binds the name. -/
theorem C11_getitem_keyerror (ss : List Scope) (n : String) :
    (VarLookupDict.new W (ss.map Ns.dict)).getItem n = .error (.keyError n) ↔
      ∀ s ∈ ss, s.lookup n = none := by
  unfold Ns.getItem
  rw [lookup_new, flattenList_map_dict]
  simp only [lookup_eq_binds, ← firstMatch_none_iff]
  cases firstMatch ss n <;> simp

example : (VarLookupDict.new W ([[("a", .const "1")], [("a", .const "2"), ("b", .const "3")],
    [("b", .const "4")]].map Ns.dict)).lookup "b" = some (.const "3") := by decide

/-- A namespace object nested to any depth resolves a name like the flat list of its dicts. -/
theorem C11_nested_flatten (ns : Ns) (n : String) : ns.lookup n = firstMatch ns.flatten n :=
  lookup_flatten ns n

/-- The shape `Call.set_type` builds: a `VarLookupDict` whose last entry is itself a
`VarLookupDict` resolves like the one `VarLookupDict` over the concatenated lists. -/
theorem C11_nested_flatten_outer (inner outer : List Ns) (n : String) :
    (VarLookupDict.new W (inner ++ [VarLookupDict.new W outer])).lookup n
      = (VarLookupDict.new W (inner ++ outer)).lookup n := by
  rw [lookup_new, lookup_new, flattenList_append, flattenList_append, firstMatch_append,
    firstMatch_append]
  -- the inner `VarLookupDict` brings one more `{}`, which binds nothing
  have : Ns.flatten.flattenList [VarLookupDict.new W outer] = [] :: Ns.flatten.flattenList outer :=
    List.append_nil _
  rw [this, firstMatch_empty_cons]

example : (VarLookupDict.new W [.dict [("f", .const "builtin")],
      VarLookupDict.new W [.dict [("f", .const "local")], .dict [("g", .const "global")]]]).lookup "g"
    = some (.const "global") := by decide

private theorem capture_int (f0 f1 : Frame) (callers : List Frame) (k : Nat) :
    capture W (.int k) documentedWiring.reference (f0 :: f1 :: callers) =
      match walkBack k callers with
      | .error e => .error e
      | .ok [] => .error (.attributeError "f_locals")
      | .ok (fr :: _) => .ok ⟨[.dict fr.locals, .dict fr.globals]⟩ := by
  -- `reference` 1 and the loop's extra 1: the two frames of `capture` and `design_matrices`
  have h2 : (((k : Int) + ((1 : Nat) : Int)) + ((1 : Nat) : Int)).toNat = k + 2 := by omega
  simp only [capture, w_reference, w_loop, w_frame, h2, walkBack]
  cases walkBack k callers with
  | error e => rfl
  | ok st => cases st <;> rfl

/-- `C11_env_depth`: `env = k` takes `f_locals` and `f_globals` of the frame `k` above the
caller of `design_matrices` (`stack = capture's frame :: design_matrices' frame :: callers`),
for any stack and any `k`. -/
theorem C11_env_depth (f0 f1 : Frame) (callers : List Frame) (k : Nat) (fr : Frame)
    (hk : selectedFrame callers k = some fr) :
    capture W (.int k) documentedWiring.reference (f0 :: f1 :: callers)
      = .ok ⟨[.dict fr.locals, .dict fr.globals]⟩ := by
  obtain ⟨hlt, hfr⟩ := List.getElem?_eq_some_iff.mp hk
  rw [capture_int, walkBack_drop k callers (Nat.le_of_lt hlt), List.drop_eq_getElem_cons hlt, hfr]

/-- One frame too deep: `frame` is `None` after the loop and `frame.f_locals` raises
`AttributeError` (not the `ValueError` of the loop). -/
theorem C11_env_too_deep_by_one (f0 f1 : Frame) (callers : List Frame) :
    capture W (.int callers.length) documentedWiring.reference (f0 :: f1 :: callers)
      = .error (.attributeError "f_locals") := by
  rw [capture_int, walkBack_drop callers.length callers (Nat.le_refl _), List.drop_length]

/-- More than one frame too deep: `ValueError("call-stack is not that deep!")`. -/
theorem C11_env_too_deep (f0 f1 : Frame) (callers : List Frame) (k : Nat)
    (hk : callers.length < k) :
    capture W (.int k) documentedWiring.reference (f0 :: f1 :: callers) = .error .valueError := by
  rw [capture_int, walkBack_too_deep k callers hk]

/-- An `Environment` instance is used as it is; anything else but an integer is a `TypeError`. -/
theorem C11_env_instance (e : Environment) (r : Int) (st : List Frame) :
    capture W (.env e) r st = .ok e := rfl
theorem C11_env_type_error (r : Int) (st : List Frame) :
    capture W .other r st = .error .typeError := rfl

example : capture W (.int 1) documentedWiring.reference
    [⟨[("depth", .const "c")], []⟩, ⟨[("formula", .const "f")], []⟩,
     ⟨[("x", .const "L0")], [("x", .const "G0")]⟩, ⟨[("x", .const "L1")], [("y", .const "G1")]⟩]
    = .ok ⟨[.dict [("x", .const "L1")], .dict [("y", .const "G1")]]⟩ := by rfl

private theorem designEnv_too_deep (f0 f1 : Frame) (callers : List Frame) (k : Nat)
    (extra : Option Scope) (hlen : callers.length ≤ k) :
    ∃ e, designEnv W (.int k) (f0 :: f1 :: callers) extra = .error e := by
  unfold designEnv
  by_cases he : k = callers.length
  · subst he
    rw [C11_env_too_deep_by_one f0 f1 callers]; exact ⟨_, rfl⟩
  · rw [C11_env_too_deep f0 f1 callers k (by omega)]; exact ⟨_, rfl⟩

/-- The call environment, computed: `[builtins, VarLookupDict([locals, globals, extra])]`. -/
theorem callEnv_int (data : Scope) (varNames : List String) (builtins : Scope) (f0 f1 : Frame)
    (callers : List Frame) (k : Nat) (fr : Frame) (extra : Option Scope)
    (hk : selectedFrame callers k = some fr) :
    Input.callEnv W ⟨data, varNames, builtins, f0 :: f1 :: callers, .int k, extra⟩
      = .ok ⟨[.dict builtins,
              .vld [.dict [], .dict fr.locals, .dict fr.globals, .dict (extraOf extra)]]⟩ := by
  have hc := C11_env_depth f0 f1 callers k fr hk
  simp only [Input.callEnv, designEnv, hc]
  cases extra <;>
    simp [Environment.withOuterNamespace, Env.callEnv, List.mapM_cons,
      List.mapM_nil, bind, Except.bind, pure, Except.pure, Environment.namespace,
      VarLookupDict.new, extraOf]

theorem callEnv_instance (data : Scope) (varNames : List String) (builtins : Scope)
    (stack : List Frame) (e : Environment) (extra : Option Scope) :
    Input.callEnv W ⟨data, varNames, builtins, stack, .env e, extra⟩
      = .ok ⟨[.dict builtins, .vld (.dict [] :: (e.namespaces ++ [.dict (extraOf extra)]))]⟩ := by
  simp only [Input.callEnv, designEnv, capture]
  cases extra <;>
    simp [Environment.withOuterNamespace, Env.callEnv, List.mapM_cons,
      List.mapM_nil, bind, Except.bind, pure, Except.pure, Environment.namespace,
      VarLookupDict.new, extraOf]

/-- The scope list that `design_matrices` + `Call.set_type` build is exactly
`[builtins (TRANSFORMS ∪ ENCODINGS), locals, globals, extra_namespace]` (between them the two
always-empty leading dicts of the two `VarLookupDict`s). -/
theorem C11_order_scopes (data : Scope) (varNames : List String) (builtins : Scope) (f0 f1 : Frame)
    (callers : List Frame) (k : Nat) (fr : Frame) (extra : Option Scope)
    (hk : selectedFrame callers k = some fr) :
    ∃ cenv, Input.callEnv W ⟨data, varNames, builtins, f0 :: f1 :: callers, .int k, extra⟩ = .ok cenv ∧
      (cenv.namespace W).flatten = [[], builtins, [], fr.locals, fr.globals, extraOf extra] := by
  refine ⟨_, callEnv_int data varNames builtins f0 f1 callers k fr extra hk, ?_⟩
  simp [Environment.namespace, VarLookupDict.new, Ns.flatten,
    Ns.flatten.flattenList]

private theorem ns_lookup_order (builtins l g x : Scope) (n : String) :
    (Environment.namespace W ⟨[.dict builtins, .vld [.dict [], .dict l, .dict g, .dict x]]⟩).lookup n
      = firstMatch [builtins, l, g, x] n := by
  rw [Environment.namespace, lookup_new]
  rfl

/-- Callee lookup is `lookup` in the order builtins, locals, globals, extra (no data frame). -/
theorem C11_order_callee (data : Scope) (varNames : List String) (builtins : Scope) (f0 f1 : Frame)
    (callers : List Frame) (k : Nat) (fr : Frame) (extra : Option Scope) (name : String)
    (hk : selectedFrame callers k = some fr) :
    resolveCallee W ⟨data, varNames, builtins, f0 :: f1 :: callers, .int k, extra⟩ [name]
      = match firstMatch (calleeOrder (scopesOf data builtins fr (extraOf extra))) name with
        | some v => .ok v
        | none => .error (.keyError name) := by
  simp only [resolveCallee, callEnv_int data varNames builtins f0 f1 callers k fr extra hk,
    calleeLookup, Ns.getItem, ns_lookup_order, calleeOrder, scopesOf]
  cases firstMatch [builtins, fr.locals, fr.globals, extraOf extra] name <;> simp [getattrChain]

/-- `name ∈ varNames` is not needed: an unselected column is not among the selected ones -/
private theorem resolveArg_eq (data : Scope) (varNames : List String) (builtins : Scope) (f0 f1 : Frame)
    (callers : List Frame) (k : Nat) (fr : Frame) (extra : Option Scope) (name : String)
    (hk : selectedFrame callers k = some fr) :
    resolveArg W ⟨data, varNames, builtins, f0 :: f1 :: callers, .int k, extra⟩ name
      = match firstMatch (data.select varNames ::
            calleeOrder (scopesOf data builtins fr (extraOf extra))) name with
        | some v => .ok v
        | none => .error (.keyError name) := by
  simp only [resolveArg, callEnv_int data varNames builtins f0 f1 callers k fr extra hk,
    argLookup, w_lazy, argLookup.go, ns_lookup_order, calleeOrder, scopesOf]
  rw [firstMatch_cons (data.select varNames), ← lookup_eq_binds]
  cases (data.select varNames).lookup name with
  | some v => simp
  | none =>
    simp only [Option.none_or]
    cases firstMatch [builtins, fr.locals, fr.globals, extraOf extra] name <;> simp

/-- Argument lookup is `lookup` in the order data, builtins, locals, globals, extra. -/
theorem C11_order_arg (data : Scope) (varNames : List String) (builtins : Scope) (f0 f1 : Frame)
    (callers : List Frame) (k : Nat) (fr : Frame) (extra : Option Scope) (name : String)
    (hk : selectedFrame callers k = some fr) (hn : name ∈ varNames) :
    resolveArg W ⟨data, varNames, builtins, f0 :: f1 :: callers, .int k, extra⟩ name
      = match firstMatch (argOrder (scopesOf data builtins fr (extraOf extra))) name with
        | some v => .ok v
        | none => .error (.keyError name) := by
  rw [resolveArg_eq data varNames builtins f0 f1 callers k fr extra name hk, firstMatch_cons,
    ← lookup_eq_binds, select_lookup data varNames name hn, lookup_eq_binds, ← firstMatch_cons]
  rfl

/-- With an `Environment` instance as `env` (any number of namespaces, possibly nested): the
order is builtins, the namespaces of the instance in their order, extra. -/
theorem C11_order_instance (data : Scope) (varNames : List String) (builtins : Scope)
    (stack : List Frame) (e : Environment) (extra : Option Scope) (name : String) :
    resolveCallee W ⟨data, varNames, builtins, stack, .env e, extra⟩ [name]
      = match firstMatch (builtins :: (Ns.flatten.flattenList e.namespaces ++ [extraOf extra])) name with
        | some v => .ok v
        | none => .error (.keyError name) := by
  simp only [resolveCallee, callEnv_instance, calleeLookup, Ns.getItem]
  rw [Environment.namespace, lookup_new]
  have : Ns.flatten.flattenList
      [.dict builtins, .vld (.dict [] :: (e.namespaces ++ [.dict (extraOf extra)]))]
      = builtins :: [] :: (Ns.flatten.flattenList e.namespaces ++ [extraOf extra]) := by
    simp [Ns.flatten.flattenList, Ns.flatten, flattenList_append]
  rw [this, firstMatch_cons, firstMatch_empty_cons, firstMatch_cons builtins]
  cases (binds builtins name).or
    (firstMatch (Ns.flatten.flattenList e.namespaces ++ [extraOf extra]) name) <;> rfl

/-- `a.b.c` as a callee: `a` is resolved in the callee order, then the attributes are followed;
a missing attribute raises `AttributeError` (no other scope is tried). -/
theorem C11_dotted (data : Scope) (varNames : List String) (builtins : Scope) (f0 f1 : Frame)
    (callers : List Frame) (k : Nat) (fr : Frame) (extra : Option Scope) (a : String)
    (path : List String) (hk : selectedFrame callers k = some fr) :
    resolveCallee W ⟨data, varNames, builtins, f0 :: f1 :: callers, .int k, extra⟩ (a :: path)
      = match firstMatch (calleeOrder (scopesOf data builtins fr (extraOf extra))) a with
        | some v => getattrChain v path
        | none => .error (.keyError a) := by
  simp only [resolveCallee, callEnv_int data varNames builtins f0 f1 callers k fr extra hk,
    calleeLookup, Ns.getItem, ns_lookup_order, calleeOrder, scopesOf]
  cases firstMatch [builtins, fr.locals, fr.globals, extraOf extra] a <;> simp

theorem C11_dotted_missing_attribute (t : String) (attrs : Scope) (a : String) (rest : List String)
    (h : attrs.lookup a = none) :
    getattrChain (.obj t attrs) (a :: rest) = .error (.attributeError a) := by
  simp [getattrChain, getattr, h]

def run (Wr : Wiring) (role : Role) (inp : Input) (name : String) (segments : List String) :
    Except Err Val :=
  match role with
  | .argument => resolveArg Wr inp name
  | .callee => resolveCallee Wr inp segments

/-- For every data frame, registry, call stack, depth, extra namespace and name: the outcome of
the model is the one the statement prescribes (including: too deep raises). -/
theorem C11_holds (role : Role) (data : Scope) (varNames : List String) (builtins : Scope)
    (f0 f1 : Frame) (callers : List Frame) (k : Nat) (extra : Option Scope) (name : String)
    (segments : List String) (hn : role = .argument → name ∈ varNames) :
    holds role data builtins callers k (extraOf extra) name segments
      (outcomeOf (run W role ⟨data, varNames, builtins, f0 :: f1 :: callers, .int k, extra⟩ name segments))
      = true := by
  simp only [holds, beq_iff_eq, expected]
  cases hk : selectedFrame callers k with
  | none =>
    have hlen : callers.length ≤ k := by
      simpa [selectedFrame] using hk
    obtain ⟨e, he⟩ := designEnv_too_deep f0 f1 callers k extra hlen
    cases role <;> simp [run, resolveArg, resolveCallee, Input.callEnv, he, outcomeOf]
  | some fr =>
    cases role with
    | argument =>
      simp only [run]
      rw [C11_order_arg data varNames builtins f0 f1 callers k fr extra name hk (hn rfl)]
      simp only [expectedArg]
      cases firstMatch (argOrder (scopesOf data builtins fr (extraOf extra))) name <;>
        simp [outcomeOf]
    | callee =>
      simp only [run]
      cases segments with
      | nil =>
        simp [resolveCallee, callEnv_int data varNames builtins f0 f1 callers k fr extra hk,
          calleeLookup, outcomeOf, expectedCallee]
      | cons a path =>
        rw [C11_dotted data varNames builtins f0 f1 callers k fr extra a path hk]
        simp only [expectedCallee]
        cases firstMatch (calleeOrder (scopesOf data builtins fr (extraOf extra))) a with
        | none => simp [outcomeOf]
        | some v => simpa using getattrChain_follow v path

/-- The same for the wiring regenerated from the current source. -/
theorem C11_holds_generated (role : Role) (data : Scope) (varNames : List String) (builtins : Scope)
    (f0 f1 : Frame) (callers : List Frame) (k : Nat) (extra : Option Scope) (name : String)
    (segments : List String) (hn : role = .argument → name ∈ varNames) :
    holds role data builtins callers k (extraOf extra) name segments
      (outcomeOf (run Env.generatedWiring role
        ⟨data, varNames, builtins, f0 :: f1 :: callers, .int k, extra⟩ name segments)) = true := by
  rw [tie_wiring]
  exact C11_holds role data varNames builtins f0 f1 callers k extra name segments hn

/-- A name bound in none of the five scopes raises `KeyError` (argument position). -/
theorem C11_undefined_arg (data : Scope) (varNames : List String) (builtins : Scope) (f0 f1 : Frame)
    (callers : List Frame) (k : Nat) (fr : Frame) (extra : Option Scope) (name : String)
    (hk : selectedFrame callers k = some fr)
    (hnone : ∀ s ∈ argOrder (scopesOf data builtins fr (extraOf extra)), s.lookup name = none) :
    resolveArg W ⟨data, varNames, builtins, f0 :: f1 :: callers, .int k, extra⟩ name
      = .error (.keyError name) := by
  rw [resolveArg_eq data varNames builtins f0 f1 callers k fr extra name hk]
  have : firstMatch (data.select varNames ::
      calleeOrder (scopesOf data builtins fr (extraOf extra))) name = none := by
    rw [firstMatch_none_iff]
    intro s hs
    rw [← lookup_eq_binds]
    rcases List.mem_cons.1 hs with rfl | hs
    · by_cases hn : name ∈ varNames
      · rw [select_lookup _ _ _ hn]; exact hnone data (List.mem_cons_self ..)
      · exact select_lookup_absent _ _ _ hn
    · exact hnone s (List.mem_cons_of_mem _ hs)
  rw [this]

/-- … and in callee position (the head of a dotted name). -/
theorem C11_undefined_callee (data : Scope) (varNames : List String) (builtins : Scope) (f0 f1 : Frame)
    (callers : List Frame) (k : Nat) (fr : Frame) (extra : Option Scope) (a : String)
    (path : List String) (hk : selectedFrame callers k = some fr)
    (hnone : ∀ s ∈ calleeOrder (scopesOf data builtins fr (extraOf extra)), s.lookup a = none) :
    resolveCallee W ⟨data, varNames, builtins, f0 :: f1 :: callers, .int k, extra⟩ (a :: path)
      = .error (.keyError a) := by
  rw [C11_dotted data varNames builtins f0 f1 callers k fr extra a path hk]
  have : firstMatch (calleeOrder (scopesOf data builtins fr (extraOf extra))) a = none := by
    rw [firstMatch_none_iff]
    intro s hs
    rw [← lookup_eq_binds]
    exact hnone s hs
  rw [this]

/-- Never "something else": whatever an argument resolves to is what one of the five scopes
binds the name to. -/
theorem C11_resolves_only_bound (data : Scope) (varNames : List String) (builtins : Scope)
    (f0 f1 : Frame) (callers : List Frame) (k : Nat) (extra : Option Scope) (name : String) (v : Val)
    (h : resolveArg W ⟨data, varNames, builtins, f0 :: f1 :: callers, .int k, extra⟩ name = .ok v) :
    ∃ fr, selectedFrame callers k = some fr ∧
      ∃ s ∈ argOrder (scopesOf data builtins fr (extraOf extra)), s.lookup name = some v := by
  cases hk : selectedFrame callers k with
  | none =>
    have hlen : callers.length ≤ k := by simpa [selectedFrame] using hk
    obtain ⟨e, he⟩ := designEnv_too_deep f0 f1 callers k extra hlen
    simp [resolveArg, Input.callEnv, he] at h
  | some fr =>
    refine ⟨fr, rfl, ?_⟩
    rw [resolveArg_eq data varNames builtins f0 f1 callers k fr extra name hk] at h
    cases hf : firstMatch (data.select varNames ::
        calleeOrder (scopesOf data builtins fr (extraOf extra))) name with
    | none => rw [hf] at h; cases h
    | some w =>
      rw [hf] at h
      cases h
      obtain ⟨s, hs, hv⟩ := firstMatch_some_mem hf
      rw [← lookup_eq_binds] at hv
      rcases List.mem_cons.1 hs with rfl | hs
      · exact ⟨data, List.mem_cons_self .., select_lookup_some _ _ _ _ hv⟩
      · exact ⟨s, List.mem_cons_of_mem _ hs, hv⟩

/-- User locals / globals / `extra_namespace` cannot shadow a built-in callee: if the registry
binds the name, that is the callee, whatever the other scopes (and the data frame) contain. -/
theorem C11_builtin_callee_not_shadowed (data : Scope) (varNames : List String) (builtins : Scope)
    (f0 f1 : Frame) (callers : List Frame) (k : Nat) (fr : Frame) (extra : Option Scope)
    (name : String) (v : Val) (hk : selectedFrame callers k = some fr)
    (hb : builtins.lookup name = some v) :
    resolveCallee W ⟨data, varNames, builtins, f0 :: f1 :: callers, .int k, extra⟩ [name] = .ok v := by
  rw [C11_order_callee data varNames builtins f0 f1 callers k fr extra name hk]
  simp [calleeOrder, scopesOf, firstMatch_cons, ← lookup_eq_binds, hb]

/-- A data column shadows everything for an argument. -/
theorem C11_arg_data_first (data : Scope) (varNames : List String) (builtins : Scope)
    (f0 f1 : Frame) (callers : List Frame) (k : Nat) (fr : Frame) (extra : Option Scope)
    (name : String) (v : Val) (hk : selectedFrame callers k = some fr) (hn : name ∈ varNames)
    (hd : data.lookup name = some v) :
    resolveArg W ⟨data, varNames, builtins, f0 :: f1 :: callers, .int k, extra⟩ name = .ok v := by
  rw [C11_order_arg data varNames builtins f0 f1 callers k fr extra name hk hn]
  simp [argOrder, scopesOf, firstMatch_cons, ← lookup_eq_binds, hd]

/-- A built-in shadows the user's scopes for an argument (when no data column has the name). -/
theorem C11_arg_builtin_not_shadowed (data : Scope) (varNames : List String) (builtins : Scope)
    (f0 f1 : Frame) (callers : List Frame) (k : Nat) (fr : Frame) (extra : Option Scope)
    (name : String) (v : Val) (hk : selectedFrame callers k = some fr) (hn : name ∈ varNames)
    (hd : data.lookup name = none) (hb : builtins.lookup name = some v) :
    resolveArg W ⟨data, varNames, builtins, f0 :: f1 :: callers, .int k, extra⟩ name = .ok v := by
  rw [C11_order_arg data varNames builtins f0 f1 callers k fr extra name hk hn]
  simp [argOrder, scopesOf, firstMatch_cons, ← lookup_eq_binds, hd, hb]

/-! ### `__setitem__` writes the leading dict only -/

theorem C11_set_then_lookup (dicts : List Ns) (n : String) (v : Val) :
    ∃ ns', (VarLookupDict.new W dicts).set n v = some ns' ∧ ns'.lookup n = some v ∧
      ∃ s, ns' = .vld (.dict s :: dicts) := by
  refine ⟨.vld (.dict (Scope.set [] n v) :: dicts), ?_, ?_, _, rfl⟩
  · simp [VarLookupDict.new, Ns.set]
  · simp [Ns.lookup, Ns.lookupList, Scope.set, Scope.lookup]

/-! ### non-vacuity: several scopes define the same name -/

def exStack : List Frame :=
  [⟨[("depth", .const "capture")], []⟩,
   ⟨[("formula", .const "dm"), ("f", .const "dm-local")], []⟩,
   ⟨[("f", .const "L0"), ("x", .const "L0x")], [("f", .const "G0"), ("g", .const "G0g")]⟩,
   ⟨[("f", .const "L1")], [("f", .const "G1"), ("np", .obj "np1" [("log", .const "np1.log"),
      ("linalg", .obj "la" [("norm", .const "np1.linalg.norm")])])]⟩]

def exInput (k : Int) : Input :=
  { data := [("x", .const "col-x"), ("f", .const "col-f")],
    varNames := ["x", "f", "g", "h"],
    builtins := [("center", .const "builtin-center"), ("g", .const "builtin-g")],
    stack := exStack,
    envArg := .int k,
    extra := some [("f", .const "X"), ("g", .const "Xg"), ("h", .const "Xh"),
                   ("np", .obj "npX" [("log", .const "npX.log")])] }

-- argument `f`: the data column wins over locals, globals and extra, which all define it
example : resolveArg W (exInput 0) "f" = .ok (.const "col-f") := by rfl
-- callee `f`: no data frame; the local of the selected frame wins over its global and extra
example : resolveCallee W (exInput 0) ["f"] = .ok (.const "L0") := by rfl
example : resolveCallee W (exInput 1) ["f"] = .ok (.const "L1") := by rfl
-- `g`: built-in wins over the global of frame 0 and extra, for both roles
example : resolveArg W (exInput 0) "g" = .ok (.const "builtin-g") := by rfl
example : resolveCallee W (exInput 0) ["g"] = .ok (.const "builtin-g") := by rfl
-- `h`: only extra
example : resolveArg W (exInput 1) "h" = .ok (.const "Xh") := by rfl
-- dotted: `np` of the globals of frame 1 wins over extra's `np`; attributes are followed
example : resolveCallee W (exInput 1) ["np", "linalg", "norm"] = .ok (.const "np1.linalg.norm") := by
  rfl
example : resolveCallee W (exInput 0) ["np", "log"] = .ok (.const "npX.log") := by rfl
-- first match, then a missing attribute raises (extra's `np` has no `linalg`… frame 1's has no `exp`)
example : resolveCallee W (exInput 1) ["np", "exp"] = .error (.attributeError "exp") := by rfl
example : resolveArg W (exInput 0) "q" = .error (.keyError "q") := by rfl
example : resolveCallee W (exInput 0) ["q", "r"] = .error (.keyError "q") := by rfl
example : resolveArg W (exInput 2) "x" = .error (.attributeError "f_locals") := by rfl
example : resolveArg W (exInput 3) "x" = .error .valueError := by rfl
-- the hypotheses of the theorems are satisfiable
example : (selectedFrame (exStack.drop 2) 1).map (·.locals) = some [("f", .const "L1")] := rfl
example : holds .callee (exInput 1).data (exInput 1).builtins (exStack.drop 2) 1
    (extraOf (exInput 1).extra) "np.log" ["np", "log"] (.value (.const "np1.log")) = true := by decide

end FormulaeModel.C11
