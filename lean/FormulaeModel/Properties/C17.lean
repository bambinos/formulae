import FormulaeModel.Spec.C17
import FormulaeModel.Proofs.ShapeExamples
/-
C17 — the slice bookkeeping of `evaluate` and of `GroupEffectsMatrix.evaluate_new_data` (the same
running start/delta computation, on possibly widened widths) satisfies the specification for
every list of terms and widths; stacking gives one row per observation and exactly the covered
columns.  Then the same for the model's own functions up to the whole of `design_matrices`
(`C17_*_partial`), with counterexamples showing the guard on the caller's namespace is needed.
-/
namespace FormulaeModel.C17
open FormulaeModel.Design FormulaeModel.Spec.C17

/-- For every list of (term, width) and every start column, the computed slices follow the term
order, are contiguous from `start` and end at `start + Σ widths`. -/
theorem C17_slices_from (ws : List (String × Nat)) (start : Nat) :
    slicesFrom (slices ws start) (ws.map (·.1)) start (start + (ws.map (·.2)).sum) = true := by
  induction ws generalizing start with
  | nil => simp [slices, slicesFrom]
  | cons w ws ih =>
    obtain ⟨name, width⟩ := w
    simp only [slices, List.map_cons, List.sum_cons, slicesFrom, beq_self_eq_true, Bool.true_and,
      Bool.and_eq_true, decide_eq_true_eq]
    refine ⟨by omega, ?_⟩
    have := ih (start + width)
    rwa [Nat.add_assoc] at this

/-- `evaluate`: slices start at zero and exactly cover the columns. -/
theorem C17_slices (ws : List (String × Nat)) :
    slicesOk (slices ws 0) (ws.map (·.1)) (ws.map (·.2)).sum = true := by
  have := C17_slices_from ws 0
  simpa [slicesOk] using this

theorem C17_slice_widths (ws : List (String × Nat)) (start : Nat) :
    (slices ws start).map (fun s => s.stop - s.start) = ws.map (·.2) := by
  induction ws generalizing start with
  | nil => simp [slices]
  | cons w ws ih =>
    obtain ⟨name, width⟩ := w
    simp [slices, ih]

/-- indexing by a term name returns that term's slice when term names are distinct … -/
theorem C17_getitem_known (ws : List (String × Nat)) (start : Nat) (name : String)
    (h : name ∈ ws.map (·.1)) : ∃ s, getItem (slices ws start) name = some s ∧ s.name = name := by
  induction ws generalizing start with
  | nil => simp at h
  | cons w ws ih =>
    obtain ⟨n, width⟩ := w
    by_cases hn : n = name
    · exact ⟨⟨n, start, start + width⟩, by simp [getItem, slices, hn], hn⟩
    · have h' : name ∈ ws.map (·.1) := by
        simp only [List.map_cons, List.mem_cons] at h
        rcases h with h | h
        · exact absurd h.symm hn
        · exact h
      obtain ⟨s, hs, hsn⟩ := ih (start + width) h'
      refine ⟨s, ?_, hsn⟩
      simp only [getItem, slices, List.find?_cons]
      have : (n == name) = false := by simpa using hn
      simp only [this]
      exact hs

/-- … and an unknown name is refused -/
theorem C17_getitem_unknown (ws : List (String × Nat)) (start : Nat) (name : String)
    (h : name ∉ ws.map (·.1)) : getItem (slices ws start) name = none := by
  induction ws generalizing start with
  | nil => simp [getItem, slices]
  | cons w ws ih =>
    obtain ⟨n, width⟩ := w
    simp only [List.map_cons, List.mem_cons, not_or] at h
    have : (n == name) = false := by
      simp only [beq_eq_false_iff_ne, ne_eq]
      exact fun hh => h.1 hh.symm
    simp only [getItem, slices, List.find?_cons, this]
    exact ih (start + width) h.2

theorem C17_hstack_rows (ms : List Matrix) (n : Nat) (h : ∀ m ∈ ms, m.length = n) :
    (hstack ms n).length = n :=
  hstack_length ms n h

theorem C17_hstack_widths (ms : List Matrix) (ws : List Nat) (n : Nat)
    (hlen : ms.length = ws.length)
    (h : ∀ i (hi : i < ms.length), ms[i].length = n ∧ ∀ r ∈ ms[i], r.length = ws[i]'(by omega)) :
    ∀ r ∈ hstack ms n, r.length = ws.sum := by
  have := hstack_width Prod.fst Prod.snd n (ms.zip ws) (by
    intro p hp r hr
    obtain ⟨i, hi, rfl⟩ := List.mem_iff_getElem.1 hp
    rw [List.length_zip] at hi
    rw [List.getElem_zip] at hr ⊢
    exact (h i (by omega)).2 r hr)
  rwa [List.map_fst_zip (by omega), List.map_snd_zip (by omega)] at this

/-- composition: the slices of any stacked matrix of the evaluation model (training, or a group
matrix re-stacked with widened blocks after `evaluate_new_data`) satisfy the specification, with
the column count being the sum of the blocks' widths -/
theorem C17_stack_slices (n : Nat) (parts : List (String × Matrix × Option (List String))) :
    slicesOk (stack n parts).slices (parts.map (·.1)) ((parts.map (fun p => p.2.1.ncols)).sum) = true := by
  have := C17_slices (parts.map (fun p => (p.1, p.2.1.ncols)))
  simpa [stack, List.map_map, Function.comp_def] using this

/-- … and it has one row per observation when every block has -/
theorem C17_stack_rows (n : Nat) (parts : List (String × Matrix × Option (List String)))
    (h : ∀ p ∈ parts, p.2.1.length = n) : (stack n parts).matrix.length = n := by
  apply C17_hstack_rows
  intro m hm
  simp only [List.mem_map] at hm
  obtain ⟨p, hp, rfl⟩ := hm
  exact h p hp

theorem stack_shape (n : Nat) (parts : List (String × Matrix × Option (List String)))
    (h : ∀ p ∈ parts, p.2.1.length = n ∧ ∃ w, HasWidth p.2.1 w) :
    slicesOk (stack n parts).slices (parts.map (·.1)) ((parts.map (fun p => p.2.1.ncols)).sum) = true ∧
    (stack n parts).matrix.length = n ∧
    ∀ r ∈ (stack n parts).matrix, r.length = (parts.map (fun p => p.2.1.ncols)).sum :=
  ⟨C17_stack_slices n parts, C17_stack_rows n parts fun p hp => (h p hp).1,
    hstack_width (·.2.1) (fun p => p.2.1.ncols) n parts fun p hp =>
      let ⟨w, hw⟩ := (h p hp).2; hasWidth_ncols _ w hw⟩

-- non-vacuity
example : slicesOk (slices [("Intercept", 1), ("f", 2), ("f:x", 3)] 0) ["Intercept", "f", "f:x"] 6 = true := by
  decide


/-! ### design-level shape theorems: the evaluation model's own top-level functions

All of them are named `_partial`: the guard on the caller's namespace (`Env.namesSized` /
`Env.namesScalar`) excludes inputs the code accepts, and outside it the row counts are false
(`C17_trainComp_rows_counterexample`, `C17_design_rows_counterexample` at the end of this file).

Hypotheses: the data frame is rectangular; `env.namesSized n`: every vector-like value bound in the
caller's namespace has `n` entries (`env.namesScalar` implies it for every `n`); a term has at least
one component (`spec.comps ≠ []`, `GroupSpec.nonempty`, `Built.termsNonempty`): `reduceMatrices []`
is the matrix without rows. -/

open FormulaeModel.Pipeline in
/-- `set_type` + `set_data` of one component (Variable or Call, any expression, any flags). -/
theorem C17_trainComp_rows_partial (env : Env) (name : String) (e : Expr) (forced isResponse full : Bool)
    (out : CompOut) (hwf : env.frame.wellFormed = true)
    (hn : env.namesSized env.frame.nrows = true)
    (h : trainComp env name e forced isResponse full = .ok out) :
    out.value.length = env.frame.nrows :=
  (trainComp_shape env hwf hn name e forced isResponse full out h).rows

/-- `Term.set_data` -/
theorem C17_trainTerm_rows_partial (env : Env) (table : List (String × Expr)) (spec : TermSpec)
    (forced isResponse : Bool) (out : TermOut) (hwf : env.frame.wellFormed = true)
    (hn : env.namesSized env.frame.nrows = true) (hne : spec.comps ≠ [])
    (h : trainTerm env table spec forced isResponse = .ok out) :
    out.data.length = env.frame.nrows :=
  (trainTerm_shape env hwf hn table spec forced isResponse out h).rows
    (fun h0 => hne (List.length_eq_zero_iff.1 h0))

/-- `GroupSpecificTerm.set_data` -/
theorem C17_trainGroup_rows_partial (env : Env) (table : List (String × Expr)) (spec : GroupSpec)
    (out : GroupOut) (hwf : env.frame.wellFormed = true)
    (hn : env.namesSized env.frame.nrows = true) (hne : spec.nonempty = true)
    (h : trainGroup env table spec = .ok out) : out.data.length = env.frame.nrows :=
  (trainGroup_shape env hwf hn table spec out h).rows hne

/-- `Term.eval_new_data` of a trained term on ANY later rectangular frame (any unseen-level
policy): one row per row of the new frame, and every row as wide as the training matrix. -/
theorem C17_newTerm_shape_partial (env env' : Env) (table : List (String × Expr)) (spec : TermSpec)
    (forced isResponse : Bool) (out : TermOut) (mode : UnseenMode) (m : Matrix) (w : Bool)
    (hwf : env.frame.wellFormed = true) (hn : env.namesSized env.frame.nrows = true)
    (hwf' : env'.frame.wellFormed = true) (hn' : env'.namesSized env'.frame.nrows = true)
    (hne : spec.comps ≠ [])
    (h : trainTerm env table spec forced isResponse = .ok out)
    (h' : newTerm out.st env' mode = .ok (m, w)) :
    m.length = env'.frame.nrows ∧
      ∀ ls, out.labels = some ls → (∀ r ∈ m, r.length = ls.length) ∧ ∀ r ∈ out.data, r.length = ls.length := by
  have hs := trainTerm_shape env hwf hn table spec forced isResponse out h
  obtain ⟨h1, h2⟩ := newTerm_shape out.st hs.state env' hwf' hn' mode m w h'
  refine ⟨h1 fun hnil => hne (List.length_eq_zero_iff.1 ?_), fun ls hls => ?_⟩
  · rw [← hs.ncomps, hnil]; rfl
  · obtain ⟨a, b⟩ := hs.cols ls hls
    exact ⟨b ▸ h2, a⟩

/-- `GroupSpecificTerm.eval_new_data` on ANY later rectangular frame: one row per row of the new
frame; the block is as wide as at training time when every new row belongs to a remembered group,
and wider by exactly the width of the effect (`fl.length * el.length + el.length`) when a new
group occurs (`ji` is the indicator matrix of the grouping factor on the new frame; a row of zeros
is a row that matches no remembered group). -/
theorem C17_newGroup_shape_partial (env env' : Env) (table : List (String × Expr)) (spec : GroupSpec)
    (out : GroupOut) (mode : UnseenMode) (m : Matrix) (w : Bool)
    (hwf : env.frame.wellFormed = true) (hn : env.namesSized env.frame.nrows = true)
    (hwf' : env'.frame.wellFormed = true) (hn' : env'.namesSized env'.frame.nrows = true)
    (hne : spec.nonempty = true)
    (h : trainGroup env table spec = .ok out)
    (h' : newGroup out.st env' mode = .ok (m, w)) :
    m.length = env'.frame.nrows ∧
    ∃ ji w2, newTerm out.st.factor env' mode = .ok (ji, w2) ∧
      ∀ ls, out.labels = some ls →
        (∀ r ∈ out.data, r.length = ls.length) ∧
        (ji.any isZeroRow = false → ∀ r ∈ m, r.length = ls.length) ∧
        (ji.any isZeroRow = true → ∀ r ∈ m, r.length = ls.length + out.st.effectWidth) := by
  have hs := trainGroup_shape env hwf hn table spec out h
  obtain ⟨h1, ji, w2, hji, ha, hb⟩ :=
    newGroup_shape out.st hs.state (hs.nonempty.trans hne) env' hwf' hn' mode m w h'
  refine ⟨h1, ji, w2, hji, fun ls hls => ?_⟩
  obtain ⟨c, d⟩ := hs.cols ls hls
  refine ⟨c, fun hz => d ▸ ha hz, fun hz => ?_⟩
  have := hb hz
  rwa [Nat.add_mul, Nat.one_mul, ← d] at this

open FormulaeModel.Pipeline in
/-- The whole of `design_matrices`, for every formula, data frame, caller's namespace and
`na_action`: the response, every common term and every group-specific term have one row per row
of the frame left by the missing-value step, and that frame is rectangular. -/
theorem C17_design_rows_partial (table : Parser.Table) (ops : Resolver.OpTable) (actions : List String)
    (formula : String) (env : Env) (naAction : String) (built : Built)
    (hwf : env.frame.wellFormed = true) (hn : env.namesScalar = true)
    (h : designMatrices table ops actions formula env naAction = .ok built)
    (hne : built.termsNonempty = true) :
    built.frame.wellFormed = true ∧
    (∀ out, built.response = some out → out.data.length = built.frame.nrows) ∧
    (∀ p ∈ built.common, ∀ out, p.2 = some out → out.data.length = built.frame.nrows) ∧
    (∀ g ∈ built.group, g.data.length = built.frame.nrows) := by
  have hs := designMatrices_shape table ops actions formula env naAction built hwf hn h
  simp only [Built.termsNonempty, Bool.and_eq_true, List.all_eq_true] at hne
  refine ⟨hs.frame, ?_, ?_, ?_⟩
  · intro out hout
    obtain ⟨k, hk⟩ := hs.response out hout
    apply hk.rows
    intro h0
    have h1 := hne.1
    rw [hout] at h1
    have := hk.ncomps
    rw [h0] at this
    simp [List.length_eq_zero_iff.1 this] at h1
  · intro p hp out hout
    obtain ⟨k, hk, ho⟩ := (hs.common p hp).2 out hout
    exact ho.rows hk
  · intro g hg
    obtain ⟨ne, hgs⟩ := hs.group g hg
    apply hgs.rows
    rw [← hgs.nonempty]
    exact hne.2 g hg

open FormulaeModel.Pipeline in
/-- The stacked common-effects matrix of a design (`CommonEffectsMatrix`, as the observer
`Driver.C04.commonStack` builds it from what `design_matrices` returned): slices, one row per row
of the frame left by the missing-value step, every row as wide as the slices cover. -/
theorem C17_design_common_partial (table : Parser.Table) (ops : Resolver.OpTable) (actions : List String)
    (formula : String) (env : Env) (naAction : String) (built : Built)
    (hwf : env.frame.wellFormed = true) (hn : env.namesScalar = true)
    (h : designMatrices table ops actions formula env naAction = .ok built) :
    let s := Driver.C04.commonStack built.frame.nrows built.trained
    let ncols := (built.commonParts.map (fun p => p.2.1.ncols)).sum
    slicesOk s.slices (built.common.map (·.1)) ncols = true ∧
    s.matrix.length = built.frame.nrows ∧
    ∀ r ∈ s.matrix, r.length = ncols := by
  have hs := designMatrices_shape table ops actions formula env naAction built hwf hn h
  obtain ⟨hnames, hparts⟩ := built.commonParts_shape hs
  exact hnames ▸ stack_shape _ _ fun p hp => ⟨(hparts p hp).1, (hparts p hp).2.1⟩

open FormulaeModel.Pipeline in
/-- The same for the stacked group-effects matrix (`GroupEffectsMatrix`). -/
theorem C17_design_group_partial (table : Parser.Table) (ops : Resolver.OpTable) (actions : List String)
    (formula : String) (env : Env) (naAction : String) (built : Built)
    (hwf : env.frame.wellFormed = true) (hn : env.namesScalar = true)
    (h : designMatrices table ops actions formula env naAction = .ok built)
    (hne : built.termsNonempty = true) :
    let s := Driver.C04.groupStack built.frame.nrows built.trained
    let ncols := (built.groupParts.map (fun p => p.2.1.ncols)).sum
    slicesOk s.slices (built.group.map (·.st.name)) ncols = true ∧
    s.matrix.length = built.frame.nrows ∧
    ∀ r ∈ s.matrix, r.length = ncols := by
  have hs := designMatrices_shape table ops actions formula env naAction built hwf hn h
  obtain ⟨hnames, hparts⟩ := built.groupParts_shape hs hne
  exact hnames ▸ stack_shape _ _ fun p hp => ⟨(hparts p hp).1, (hparts p hp).2.1⟩

open FormulaeModel.Pipeline in
/-- `evaluate_new_data` on the blocks of a design, for ANY later rectangular frame and any policy
for unseen levels: every common block has one row per row of the new frame and the training width;
every group block has one row per row of the new frame and either the training width or — when a
new group occurs — the training width plus the width of its effect. -/
theorem C17_design_new_blocks_partial (table : Parser.Table) (ops : Resolver.OpTable) (actions : List String)
    (formula : String) (env env' : Env) (naAction : String) (built : Built) (mode : UnseenMode)
    (hwf : env.frame.wellFormed = true) (hn : env.namesScalar = true)
    (hwf' : env'.frame.wellFormed = true) (hn' : env'.namesSized env'.frame.nrows = true)
    (h : designMatrices table ops actions formula env naAction = .ok built)
    (hne : built.termsNonempty = true) :
    (∀ p ∈ built.common, ∀ out, p.2 = some out → ∀ m w, newTerm out.st env' mode = .ok (m, w) →
      m.length = env'.frame.nrows ∧
      ∀ ls, out.labels = some ls → (∀ r ∈ m, r.length = ls.length) ∧ ∀ r ∈ out.data, r.length = ls.length) ∧
    (∀ g ∈ built.group, ∀ m w, newGroup g.st env' mode = .ok (m, w) →
      m.length = env'.frame.nrows ∧
      ∀ ls, g.labels = some ls → (∀ r ∈ g.data, r.length = ls.length) ∧
        ((∀ r ∈ m, r.length = ls.length) ∨ (∀ r ∈ m, r.length = ls.length + g.st.effectWidth))) := by
  obtain ⟨used, atoms, hna, -, hcommon, hgroup⟩ := designMatricesWith_trained _ _ _ _ _ _ _ _ h
  have hwf1 := naStep_wellFormed _ _ _ _ _ hwf hna
  have hn1 := Env.namesSized_of_scalar ⟨built.frame, env.names⟩ built.frame.nrows hn
  simp only [Built.termsNonempty, Bool.and_eq_true, List.all_eq_true] at hne
  constructor
  · intro p hp out hout m w hm
    obtain ⟨spec, hsne, hs⟩ := (hcommon p hp).2 out hout
    exact C17_newTerm_shape_partial _ env' atoms spec false false out mode m w hwf1 hn1 hwf' hn' hsne hs hm
  · intro g hg m w hm
    obtain ⟨spec, hs⟩ := hgroup g hg
    obtain ⟨h1, ji, w2, -, hl⟩ := C17_newGroup_shape_partial _ env' atoms spec g mode m w hwf1 hn1 hwf' hn'
      ((trainGroup_shape _ hwf1 hn1 atoms spec g hs).nonempty ▸ hne.2 g hg) hs hm
    refine ⟨h1, fun ls hls => ⟨(hl ls hls).1, ?_⟩⟩
    cases hz : ji.any isZeroRow with
    | false => exact .inl ((hl ls hls).2.1 hz)
    | true => exact .inr ((hl ls hls).2.2 hz)

/-! ### non-vacuity of the design-level theorems (inputs: Proofs/ShapeExamples.lean) -/

open FormulaeModel.ShapeEx

-- the hypotheses hold for the example environments
example : exEnv.frame.wellFormed = true ∧ exEnv.namesSized exEnv.frame.nrows = true ∧
    exEnv.namesScalar = true ∧ exEnvNA.frame.wellFormed = true ∧ exEnvNA.namesScalar = true ∧
    exNew.frame.wellFormed = true ∧ exNew.namesSized exNew.frame.nrows = true ∧
    exTermSpec.comps ≠ [] ∧ exGroupSpec.nonempty = true := by decide

-- the call `C(f)` is evaluated and has the 4 rows of the frame
example : (match trainComp exEnv "C(f)" (exCall1 "C" (exVar "f")) false false false with
    | .ok o => o.value.length == 4 && o.labels == some ["C(f)[b]", "C(f)[c]"]
    | .error _ => false) = true := by decide +kernel
example (out : CompOut) (h : trainComp exEnv "C(f)" (exCall1 "C" (exVar "f")) false false false = .ok out) :
    out.value.length = 4 := C17_trainComp_rows_partial exEnv _ _ _ _ _ out (by decide) (by decide) h

-- the interaction `C(f):x`
example : (match trainTerm exEnv exTable exTermSpec false false with
    | .ok o => o.data == [[some 0, some 0], [some 2, some 0], [some 0, some 4], [some 0, some 0]]
    | .error _ => false) = true := by decide +kernel
example (out : TermOut) (h : trainTerm exEnv exTable exTermSpec false false = .ok out) :
    out.data.length = 4 := C17_trainTerm_rows_partial exEnv _ _ _ _ out (by decide) (by decide) (by decide) h

-- `(x | g)`
example : (match trainGroup exEnv exTable exGroupSpec with
    | .ok o => o.data == [[some 1, some 0], [some 0, some 2], [some 4, some 0], [some 0, some 5]]
    | .error _ => false) = true := by decide +kernel
example (out : GroupOut) (h : trainGroup exEnv exTable exGroupSpec = .ok out) :
    out.data.length = 4 := C17_trainGroup_rows_partial exEnv _ _ out (by decide) (by decide) (by decide) h

-- the trained interaction on the later frame: 2 rows, 2 columns
example : (match trainTerm exEnv exTable exTermSpec false false with
    | .ok o => (match newTerm o.st exNew .error with
      | .ok (m, _) => m == [[some 7, some 0], [some 8, some 0]]
      | .error _ => false)
    | .error _ => false) = true := by decide +kernel

-- the new group `zz` widens the block from 2 to 2 + 1 columns
example : (match trainGroup exEnv exTable exGroupSpec with
    | .ok o => (match newGroup o.st exNew .silent with
      | .ok (m, _) => m == [[some 7, some 0, some 0], [some 0, some 0, some 8]] && o.st.effectWidth == 1
      | .error _ => false)
    | .error _ => false) = true := by decide +kernel

-- the whole pipeline on the frame with a missing cell: 3 retained rows, 3 common columns, 4 group columns
-- (`(x|g)` stands for `(1|g) + (x|g)`)
example : (match exDesign exEnvNA with
    | .ok b => b.termsNonempty && b.frame.nrows == 3 && b.common.map (fun (p : String × Option TermOut) => p.1) == ["Intercept", "f", "x"]
        && (Driver.C04.commonStack b.frame.nrows b.trained).slices
            == [⟨"Intercept", 0, 1⟩, ⟨"f", 1, 2⟩, ⟨"x", 2, 3⟩]
        && (Driver.C04.commonStack b.frame.nrows b.trained).matrix
            == [[some 1, some 0, some 1], [some 1, some 1, some 4], [some 1, some 0, some 5]]
        && (Driver.C04.groupStack b.frame.nrows b.trained).matrix
            == [[some 1, some 0, some 1, some 0], [some 1, some 0, some 4, some 0],
                [some 0, some 1, some 0, some 5]]
    | .error _ => false) = true := by decide +kernel
example (b : Pipeline.Built) (h : exDesign exEnvNA = .ok b) (hne : b.termsNonempty = true) :
    ∀ g ∈ b.group, g.data.length = b.frame.nrows :=
  (C17_design_rows_partial _ _ _ _ exEnvNA _ b (by decide) (by decide) h hne).2.2.2

/-! ### why the theorems above are `_partial`: the guard on the caller's namespace excludes inputs
the code accepts

The unguarded statement ("one row per row of the data frame" for EVERY environment) is false of
the model — and of the library, which the model mirrors here: a vector bound in the caller's
namespace is used as it is, whatever its length (`LazyVariable.eval` falls back to the environment,
nothing compares lengths; `np.column_stack` only complains when a second block disagrees).  With
`z = np.array([1., 2.])` in the caller's namespace and a 4-row data frame,
`design_matrices("y ~ 0 + I(z)", data)` returns a common matrix with 2 rows beside a response with
4 rows.  The guard `Env.namesSized` (implied by `Env.namesScalar`, which is what the harness
generates) excludes exactly this. -/

/-- the row-count statement without the guard on the namespace -/
def C17_trainComp_rows_Statement : Prop :=
  ∀ (env : Env) (name : String) (e : Expr) (forced isResponse full : Bool) (out : CompOut),
    env.frame.wellFormed = true →
    trainComp env name e forced isResponse full = .ok out → out.value.length = env.frame.nrows

/-- a 4-row frame, and a 2-entry vector `z` in the caller's namespace -/
def exEnvZ : Env := { frame := exFrame, names := [("z", .vec [some 1, some 2] false)] }

theorem C17_trainComp_rows_counterexample : ¬ C17_trainComp_rows_Statement := by
  intro hS
  have h : trainComp exEnvZ "I(z)" (exCall1 "I" (exVar "z")) false false false
      = .ok ⟨{ name := "I(z)", expr := exCall1 "I" (exVar "z"), kind := .numeric, forced := false,
               tstate := .node none [.leaf] }, [[some 1], [some 2]], some ["I(z)"]⟩ := by
    rfl
  have := hS exEnvZ _ _ _ _ _ _ (by decide) h
  exact absurd this (by decide)

/-- … and through the whole pipeline: `y ~ 0 + I(z)` gives a common block with 2 rows for a frame
(and a response) with 4 rows -/
theorem C17_design_rows_counterexample :
    (match Pipeline.designMatrices Generated.parserTable Generated.resolverOps Generated.naActions
        "y ~ 0 + I(z)" exEnvZ "drop" with
     | .ok b => b.frame.nrows == 4 && b.termsNonempty
         && b.response.map (fun (o : TermOut) => o.data.length) == some 4
         && b.common.map (fun (p : String × Option TermOut) => p.2.map (fun (o : TermOut) => o.data.length))
              == [some 2]
     | .error _ => false) = true := by decide +kernel

-- the counterexample is outside the guard
example : exEnvZ.frame.wellFormed = true ∧ exEnvZ.namesSized exEnvZ.frame.nrows = false := by decide

/-- A term without components has no rows (`reduceMatrices []`): the guard `spec.comps ≠ []` of
`C17_trainTerm_rows_partial` is needed in the model; a `Term` of the library always has at least
one component, so this guard excludes no input of the code. -/
theorem C17_trainTerm_rows_counterexample_empty :
    (match trainTerm exEnv exTable ⟨"t", []⟩ false false with
     | .ok o => o.data.length == 0 && exEnv.frame.nrows == 4
     | .error _ => false) = true := by decide +kernel

end FormulaeModel.C17
