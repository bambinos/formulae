import FormulaeModel.Spec.C09
import FormulaeModel.Generated.Tables
import FormulaeModel.Proofs.PipelineUsed
/-
C09 — the `var_names` visitor finds exactly the variable leaves; the missing-value step action by
action, `drop` as the run on the filtered frame; where the proved and the executed pipeline coincide.
-/
namespace FormulaeModel.C09
open FormulaeModel.NA FormulaeModel.Spec.C09

theorem mem_filter_ne {l : List String} {x : String} : x ∈ l.filter (· != "") ↔ x ∈ l ∧ x ≠ "" := by
  simp [List.mem_filter]

mutual
/-- the visitor over the lazy call tree finds exactly the variable leaves (plus "" for literals):
positional arguments, keyword arguments, nested calls, operators, backquoted names -/
theorem argVars_eq : ∀ (e : Expr) (x : String), x ≠ "" → (x ∈ argVars e ↔ x ∈ freeVars e)
  | .grouping _ e _, x, hx => argVars_eq e x hx
  | .binary l _ r, x, hx => by
    simp only [argVars, freeVars, List.mem_append]
    rw [argVars_eq l x hx, argVars_eq r x hx]
  | .unary _ r, x, hx => argVars_eq r x hx
  | .call _ _ as _, x, hx => argsVars_eq as x hx
  | .brace _ e _, x, hx => argVars_eq e x hx
  | .variable _, _, _ => Iff.rfl
  | .subset _ _ _ _, _, _ => Iff.rfl
  | .quoted _, _, _ => Iff.rfl
  | .literal _, x, hx => by simp [argVars, freeVars]; exact fun h => hx h
  | .assign _ _ v, x, hx => argVars_eq v x hx
theorem argsVars_eq : ∀ (as : Args) (x : String), x ≠ "" →
    (x ∈ argsVarsPos as ++ argsVarsKw as ↔ x ∈ freeVarsArgs as)
  | .nil, _, _ => by simp [argsVarsPos, argsVarsKw, freeVarsArgs]
  | .last e, x, hx => by
    -- one of the two parts is `argVars e`, the other is empty
    have hpart : x ∈ argsVarsPos (.last e) ++ argsVarsKw (.last e) ↔ x ∈ argVars e := by
      cases e <;> simp only [argsVarsPos, argsVarsKw, argVars, List.append_nil, List.nil_append]
    rw [hpart, argVars_eq e x hx, freeVarsArgs]
  | .more e t rest, x, hx => by
    have hpart : x ∈ argsVarsPos (.more e t rest) ++ argsVarsKw (.more e t rest) ↔
        x ∈ argVars e ∨ x ∈ argsVarsPos rest ++ argsVarsKw rest := by
      cases e <;> simp only [argsVarsPos, argsVarsKw, argVars, List.nil_append, List.mem_append, or_assoc,
        or_left_comm]
    rw [hpart, argVars_eq e x hx, argsVars_eq rest x hx, freeVarsArgs, List.mem_append]
end

/-- the same for the component at a term position (`Variable.var_names`, `Call.var_names`) -/
theorem atomVars_eq (e : Expr) (x : String) (hx : x ≠ "")
    (ha : match e with | .call .. | .brace .. | .variable _ | .subset .. | .quoted _ => True | _ => False) :
    x ∈ atomVars e ↔ x ∈ freeVars e := by
  cases e with
  | call c lp as rp =>
    have := argsVars_eq as x hx
    simpa [atomVars, freeVars] using this
  | brace lb e rb => simpa [atomVars, freeVars] using argVars_eq e x hx
  | _ => simp_all [atomVars, freeVars]

/-- a frame without rows is refused, whatever the action -/
theorem C09_empty_refused (action : String) (used : List String) (f : Frame) (h : f.nrows = 0) :
    naStep Spec.C09.documentedActions action used f = .error .valueError := by
  simp [naStep, h]

/-- the NA step refuses every action that is not documented -/
theorem C09_action_refused (action : String) (used : List String) (f : Frame)
    (h : Spec.C09.documentedActions.contains action = false) :
    naStep Spec.C09.documentedActions action used f = .error .valueError := by
  simp only [naStep, h, Bool.not_false, if_true]
  split <;> rfl

/-- `error`: raises iff some selected row is incomplete -/
theorem C09_error_iff (used : List String) (f : Frame) (hn : f.nrows ≠ 0) :
    (naStep Spec.C09.documentedActions "error" used f = .error .valueError) ↔
      (incompleteRows f.nrows (selectCols used f)).any id = true := by
  rw [Pipeline.naStep_guarded _ _ _ _ hn (by decide)]
  have h2 : ("error" == "pass") = false := by decide
  have h3 : ("error" == "drop") = false := by decide
  simp only [h2, h3, Bool.false_eq_true, if_false]
  split <;> simp_all

/-- `drop`: the design frame is the selected columns restricted to the complete rows; nothing
else changes (order kept); refused when no row is complete -/
theorem C09_drop (used : List String) (f : Frame) (hn : f.nrows ≠ 0) :
    naStep Spec.C09.documentedActions "drop" used f =
      (let inc := incompleteRows f.nrows (selectCols used f)
       if inc.any id then
         (if inc.all id then .error .valueError
          else .ok (keepRows (selectCols used f) (inc.map (!·))))
       else .ok (selectCols used f)) := by
  rw [Pipeline.naStep_guarded _ _ _ _ hn (by decide)]
  have h2 : ("drop" == "pass") = false := by decide
  simp only [h2, Bool.false_eq_true, if_false, beq_self_eq_true, if_true]

/-- `pass`: all rows are kept, in order -/
theorem C09_pass (used : List String) (f : Frame) (hn : f.nrows ≠ 0) :
    naStep Spec.C09.documentedActions "pass" used f = .ok (selectCols used f) := by
  rw [Pipeline.naStep_guarded _ _ _ _ hn (by decide)]
  simp only [beq_self_eq_true, if_true]
  split <;> rfl

/-- missing values in unused columns are ignored: the mask only looks at selected columns -/
theorem C09_unused_ignored (used : List String) (f : Frame) (c : Column) (hc : used.contains c.name = false) :
    selectCols used (f ++ [c]) = selectCols used f := by
  simp only [selectCols, List.filter_append, List.filter_cons, hc, Bool.false_eq_true, if_false,
    List.filter_nil, List.append_nil]

theorem keep_length {α} (xs : List α) (keep : List Bool) (h : xs.length = keep.length) :
    (kept xs keep).length = (keep.filter id).length := by
  unfold kept
  induction xs generalizing keep with
  | nil => cases keep <;> simp_all
  | cons x xs ih =>
    cases keep with
    | nil => simp at h
    | cons k keep =>
      have := ih keep (by simpa using h)
      cases k <;> simp_all

/-- all three matrices are built from the same filtered frame: the columns keep their names and
order, and every column keeps the same number of rows (row alignment) -/
theorem C09_row_alignment (f : Frame) (keep : List Bool)
    (hl : ∀ c ∈ f, c.cells.length = keep.length) :
    (keepRows f keep).map (·.name) = f.map (·.name) ∧
    ∀ c' ∈ keepRows f keep, c'.cells.length = (keep.filter id).length := by
  constructor
  · simp [keepRows, Function.comp_def]
  · intro c' hc'
    simp only [keepRows, List.mem_map] at hc'
    obtain ⟨c, hc, rfl⟩ := hc'
    exact keep_length c.cells keep (hl c hc)

theorem selectCols_keepRows (used : List String) (f : Frame) (keep : List Bool) :
    selectCols used (keepRows f keep) = keepRows (selectCols used f) keep := by
  simp only [selectCols, keepRows, List.filter_map]
  congr 1

theorem mem_kept {α} (xs : List α) (keep : List Bool) (x : α) (h : x ∈ kept xs keep) :
    ∃ i : Nat, xs[i]? = some x ∧ keep[i]? = some true := by
  unfold kept at h
  induction xs generalizing keep with
  | nil => simp at h
  | cons y ys ih =>
    cases keep with
    | nil => simp at h
    | cons k ks =>
      simp only [List.zip_cons_cons, List.filterMap_cons] at h
      cases k with
      | true =>
        simp only [if_true, List.mem_cons] at h
        rcases h with rfl | h
        · exact ⟨0, by simp, by simp⟩
        · obtain ⟨i, h1, h2⟩ := ih ks h
          exact ⟨i + 1, by simpa using h1, by simpa using h2⟩
      | false =>
        simp only [Bool.false_eq_true, if_false] at h
        obtain ⟨i, h1, h2⟩ := ih ks h
        exact ⟨i + 1, by simpa using h1, by simpa using h2⟩

theorem kept_all_true {α} (xs : List α) (keep : List Bool) (hl : xs.length = keep.length)
    (ht : ∀ b ∈ keep, b = true) : kept xs keep = xs := by
  unfold kept
  induction xs generalizing keep with
  | nil => cases keep <;> simp_all
  | cons y ys ih =>
    cases keep with
    | nil => simp at hl
    | cons k ks =>
      have hk : k = true := ht k (by simp)
      subst hk
      simp only [List.zip_cons_cons, List.filterMap_cons, if_true]
      rw [ih ks (by simpa using hl) (fun b hb => ht b (by simp [hb]))]

theorem no_missing_after_drop (n : Nat) (sel : Frame) (c : Column) (hc : c ∈ sel) (x : Cell)
    (hx : x ∈ kept c.cells ((incompleteRows n sel).map (!·))) : cellMissing x = false := by
  obtain ⟨i, h1, h2⟩ := mem_kept _ _ _ hx
  simp only [incompleteRows, List.map_map, List.getElem?_map, Option.map_eq_some_iff] at h2
  obtain ⟨r, hr, hb⟩ := h2
  have hri : r = i := by
    have := List.getElem?_range (n := n) (i := i)
    cases hlt : decide (i < n) with
    | true =>
      have hlt' : i < n := by simpa using hlt
      simp [List.getElem?_range hlt'] at hr
      exact hr.symm
    | false =>
      have hge : n ≤ i := by simpa using hlt
      have : (List.range n)[i]? = none := by simp [hge]
      simp [this] at hr
  subst hri
  simp only [Function.comp, Bool.not_eq_true', List.any_eq_false] at hb
  have := hb c hc
  simpa [List.getD, h1] using this

theorem incompleteRows_after_drop (n m : Nat) (sel : Frame)
    (hl : ∀ c ∈ sel, (kept c.cells ((incompleteRows n sel).map (!·))).length = m) :
    (incompleteRows m (keepRows sel ((incompleteRows n sel).map (!·)))).any id = false := by
  simp only [incompleteRows, List.any_map, List.any_eq_false, List.mem_range, Function.comp, id]
  intro r hr
  simp only [keepRows, List.any_map, Function.comp, Bool.not_eq_true, List.any_eq_false]
  intro c hc
  have hlen := hl c hc
  have hmem : (kept c.cells ((incompleteRows n sel).map (!·))).getD r .na
      ∈ kept c.cells ((incompleteRows n sel).map (!·)) := by
    have hr' : r < (kept c.cells ((incompleteRows n sel).map (!·))).length := by omega
    simp only [List.getD_eq_getElem?_getD, List.getElem?_eq_getElem hr', Option.getD_some]
    exact List.getElem_mem _
  have := no_missing_after_drop n sel c hc _ hmem
  simpa [incompleteRows] using this

theorem nrows_keepRows (f : Frame) (keep : List Bool) (hw : ∀ c ∈ f, c.cells.length = keep.length)
    (hf : f ≠ []) : (keepRows f keep).nrows = (keep.filter id).length := by
  cases f with
  | nil => exact absurd rfl hf
  | cons c cs =>
    simp only [keepRows, List.map_cons, Frame.nrows]
    exact keep_length c.cells keep (hw c (by simp))

theorem keepRows_all_true (f : Frame) (keep : List Bool) (hw : ∀ c ∈ f, c.cells.length = keep.length)
    (ht : ∀ b ∈ keep, b = true) : keepRows f keep = f := by
  simp only [keepRows]
  conv => rhs; rw [← List.map_id f]
  apply List.map_congr_left
  intro c hc
  simp [kept_all_true c.cells keep (hw c hc) ht]

theorem complete_mask_all_true (inc : List Bool) (h : inc.any id = false) :
    ∀ b ∈ inc.map (!·), b = true := by
  simp only [List.any_eq_false, id] at h
  simp only [List.mem_map]
  rintro b ⟨a, ha, rfl⟩
  simpa using h a ha

theorem complete_mask_empty_iff (inc : List Bool) :
    ((inc.map (!·)).filter id).length = 0 ↔ inc.all id = true := by
  induction inc with
  | nil => simp
  | cons a as ih => cases a <;> simp [ih]

theorem filtered_complete (used : List String) (f : Frame) (hw : ∀ c ∈ f, c.cells.length = f.nrows)
    (hf : f ≠ []) :
    (incompleteRows (keepRows f ((incompleteRows f.nrows (selectCols used f)).map (!·))).nrows
      (selectCols used (keepRows f ((incompleteRows f.nrows (selectCols used f)).map (!·))))).any id =
      false := by
  have hw' : ∀ c ∈ f, c.cells.length = ((incompleteRows f.nrows (selectCols used f)).map (!·)).length :=
    fun c hc => by rw [hw c hc]; simp [incompleteRows]
  rw [selectCols_keepRows, nrows_keepRows _ _ hw' hf]
  exact incompleteRows_after_drop f.nrows _ (selectCols used f) fun c hc =>
    keep_length _ _ (hw' c (List.mem_filter.mp hc).1)

/-- **drop is the run on the filtered frame.**  For a well-formed frame (all columns have
`f.nrows` cells), `na_action='drop'` gives exactly what the same call gives on the frame from which
the rows with a missing value in a used column were removed — including the refusal when no row
is complete (the filtered frame is then empty, which is refused too). -/
theorem C09_drop_eq_filtered (used : List String) (f : Frame)
    (hw : ∀ c ∈ f, c.cells.length = f.nrows) :
    naStep Spec.C09.documentedActions "drop" used f =
      naStep Spec.C09.documentedActions "drop" used
        (keepRows f ((incompleteRows f.nrows (selectCols used f)).map (!·))) := by
  generalize hkeep : (incompleteRows f.nrows (selectCols used f)).map (!·) = keep
  have hklen : keep.length = f.nrows := by subst hkeep; simp [incompleteRows]
  have hw' : ∀ c ∈ f, c.cells.length = keep.length := fun c hc => by rw [hklen]; exact hw c hc
  by_cases hn : f.nrows = 0
  · -- no rows: both sides refused
    have h2 : (keepRows f keep).nrows = 0 := by
      cases f with
      | nil => rfl
      | cons c cs =>
        rw [nrows_keepRows _ _ hw' (by simp)]
        have : keep = [] := List.eq_nil_of_length_eq_zero (by omega)
        simp [this]
    rw [C09_empty_refused _ _ _ hn, C09_empty_refused _ _ _ h2]
  · have hf : f ≠ [] := by intro h; subst h; exact hn rfl
    have hnr : (keepRows f keep).nrows = (keep.filter id).length := nrows_keepRows _ _ hw' hf
    rw [C09_drop used f hn]
    simp only
    by_cases hany : (incompleteRows f.nrows (selectCols used f)).any id = true
    · rw [if_pos hany]
      by_cases hall : (incompleteRows f.nrows (selectCols used f)).all id = true
      · -- every row incomplete: nothing is kept, the filtered frame is empty
        rw [if_pos hall]
        have : (keep.filter id).length = 0 := by
          subst hkeep; exact (complete_mask_empty_iff _).2 hall
        rw [C09_empty_refused _ _ _ (by omega)]
      · rw [if_neg hall]
        have hpos : (keepRows f keep).nrows ≠ 0 := by
          rw [hnr]
          subst hkeep
          exact fun h0 => hall ((complete_mask_empty_iff _).1 h0)
        have hnone := filtered_complete used f hw hf
        rw [hkeep] at hnone
        rw [C09_drop used _ hpos]
        simp only
        rw [if_neg (by simpa using hnone), selectCols_keepRows, hkeep]
    · -- no incomplete row: nothing is removed
      rw [if_neg hany]
      have hall : ∀ b ∈ keep, b = true := by
        subst hkeep; exact complete_mask_all_true _ (by simpa using hany)
      rw [keepRows_all_true f keep hw' hall, C09_drop used f hn]
      simp only
      rw [if_neg hany]

/-- a well-formed frame with a complete and an incomplete row in the used column `x` and a missing
value in the unused column `u` -/
def exFrame : Frame :=
  [⟨"x", .string, [.str "a", .na, .str "c"]⟩, ⟨"u", .string, [.na, .str "p", .str "q"]⟩]

example : (∀ c ∈ exFrame, c.cells.length = exFrame.nrows) := by decide

example :
    (match naStep Spec.C09.documentedActions "drop" ["x"] exFrame with
     | .ok g => g.map (fun c => (c.name, c.cells)) == [("x", [.str "a", .str "c"])]
     | .error _ => false) = true ∧
    (match naStep Spec.C09.documentedActions "drop" ["u"] [⟨"u", .string, [.na, .na]⟩] with
     | .ok _ => false
     | .error _ => true) = true := by
  decide

theorem actions_tie : Generated.naActions = Spec.C09.documentedActions := by decide

/-- the used variables of a formula text under three readings: as the code computes them
(`Model.var_names` of the resolved model, `Pipeline.usedVars`), as the specification reads the
statement (variables of the terms of the denotation, `Spec.C09.usedVars`), and as written
(`NA.formulaVars`, every atom at a term position) -/
def readings (s : String) : Option (List String × List String × List String) :=
  match Scanner.scan s.toList true with
  | .ok ts =>
    (match Parser.parse Generated.parserTable ts with
     | .ok e => some (Pipeline.usedVars Generated.resolverOps e, Spec.C09.usedVars e, formulaVars e)
     | .error _ => none)
  | .error _ => none

/-- **The proved pipeline is the executed pipeline.**  The whole-pipeline theorems of C04 / C15 /
C17 are stated about `Pipeline.designMatrices` (every variable written in the formula is selected by
the NA step); the driver executes `Pipeline.designMatricesModel` (the variables of the resolved
model, as the code does).  The two are the same function on every formula, frame and policy for
which the two readings select the same columns — i.e. unless every term of some variable of the
frame is removed again (the last example below). -/
theorem C09_pipeline_readings_agree (table : Parser.Table) (ops : Resolver.OpTable)
    (actions : List String) (formula : String) (env : Design.Env) (naAction : String)
    (h : Pipeline.SameSelection table ops formula env.frame) :
    Pipeline.designMatrices table ops actions formula env naAction =
      Pipeline.designMatricesModel table ops actions formula env naAction :=
  Pipeline.designMatrices_eq_model table ops actions formula env naAction h

def selFrame : Frame :=
  [⟨"y", .numeric false, [.num 1, .num 2, .num 3]⟩, ⟨"a", .numeric false, [.num 1, .na, .num 2]⟩,
   ⟨"x", .numeric false, [.na, .num 3, .num 4]⟩, ⟨"u", .numeric false, [.na, .na, .num 0]⟩]

/-- the hypothesis of `C09_pipeline_readings_agree` is satisfiable (an interaction and a call) … -/
example : Pipeline.SameSelection Generated.parserTable Generated.resolverOps "y ~ a:x + f(x, k = a)"
    selFrame :=
  Pipeline.sameSel_sound _ _ _ _ (by decide +kernel)

/-- … and fails where a variable is removed again -/
example : Pipeline.sameSel Generated.parserTable Generated.resolverOps "y ~ a + x - x" selFrame = false := by
  decide +kernel

end FormulaeModel.C09
