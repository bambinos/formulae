import FormulaeModel.Proofs.Encoding
/-
C03 — property theorems.  Besides Model/Contrasts, Model/Encoding and Spec/C03 the statements use
the translations defined here and, for `C03_hierarchical_categorical`, `AllCategoric` and `catEntry`
of Proofs/Encoding.
-/
namespace FormulaeModel.C03
open FormulaeModel.Contrasts FormulaeModel.Encoding FormulaeModel.Spec.C03

/-- a group handed to `pick_contrasts`, as a family of the specification (purely categorical) -/
def famOfGroup (g : List (String × List Factor)) : List STerm :=
  g.map (fun t => { cat := t.2, num := [] })

/-- a factor coding returned by `pick_contrasts`, as a coded term of the specification -/
def ctermOfCoding (c : Coding) : CTerm :=
  { red := (c.filter (fun e => !e.2)).map (·.1), full := (c.filter (fun e => e.2)).map (·.1), num := [] }

def codedOfOutput (out : Dict (List Coding)) : List CTerm :=
  out.flatMap (fun e => e.2.map ctermOfCoding)

theorem inInterval_ctermOfCoding (c : Coding) (U : List String) :
    inInterval (ctermOfCoding c) U = inIv c U :=
  inInterval_eq_inIv (by simp [ctermOfCoding]) (by simp [ctermOfCoding]) U

/-- **C03_pick_contrasts_partition.**  For every family of terms, in every order of the terms and of
the factors inside a term (component lists duplicate-free, as `Term.__init__` guarantees),
`pick_contrasts` succeeds, returns one entry per term in order, every returned coding mentions a
factor at most once, and the intervals of the returned codings cover every subset of the
down-closure ⋃ 𝒫(Tᵢ) exactly once and nothing else. -/
theorem C03_pick_contrasts_partition (g : List (String × List Factor)) (hnd : ∀ t ∈ g, t.2.Nodup) :
    ∃ out, pickContrasts g = .ok out ∧ out.map (·.1) = g.map (·.1) ∧
      (∀ e ∈ out, ∀ c ∈ e.2, (c.map (·.1)).Nodup) ∧
      Partition (famOfGroup g) (codedOfOutput out) := by
  obtain ⟨out, hok, hnames, hcnt, hfacts, _⟩ := pickContrasts_group g hnd
  refine ⟨out, hok, hnames, fun e he => ?_, ?_⟩
  · obtain ⟨_, _, _, hfa⟩ := hfacts e he
    exact hfa.wf
  intro N U
  have e1 : count (codedOfOutput out) N U =
      if sameSet [] N then cnt (out.flatMap (·.2)) U else 0 := by
    simp only [count, codedOfOutput, cnt]
    rw [show (out.flatMap (fun e => e.2.map ctermOfCoding)) = (out.flatMap (·.2)).map ctermOfCoding from by
      rw [List.map_flatMap]]
    rw [List.countP_map]
    by_cases hN : sameSet [] N = true
    · simp only [hN, if_true]
      apply List.countP_congr
      intro c _
      simp [Function.comp, ctermOfCoding, hN, ← inInterval_ctermOfCoding c U]
    · simp only [hN, Bool.false_eq_true, if_false]
      rw [List.countP_eq_zero]
      intro c _
      simp [ctermOfCoding, hN]
  have e2 : inDownset (famOfGroup g) N U = (sameSet [] N && inDown (g.map (·.2)) U) := by
    simp only [inDownset, famOfGroup, inDown, List.any_map, Function.comp_def, subsetOf]
    by_cases hN : sameSet [] N = true
    · simp [hN]
    · simp [hN]
  rw [e1, e2, hcnt U]
  by_cases hN : sameSet [] N = true <;> simp [hN]

def pickIs (g : List (String × List Factor)) (expected : Dict (List Coding)) : Bool :=
  match pickContrasts g with
  | .ok out => out == expected
  | .error _ => false

/-- non-vacuity / sanity: a family listing an interaction before its margin; the codings are the
ones the real code returns (`f:g ↦ [{g: False}, {f: False, g: True}]`, `f ↦ []`). -/
example : pickIs [("Intercept", []), ("f:g", ["f", "g"]), ("f", ["f"])]
    [("Intercept", [[]]), ("f:g", [[("g", false)], [("f", false), ("g", true)]]), ("f", [])] = true := by
  decide +kernel

/-- **C03_absorb_no_assert.**  Neither `assert` of `Subterm.absorb` (nor the model's fuel bound) is
reachable from `pick_contrasts`, whatever the family and the order. -/
theorem C03_absorb_no_assert (g : List (String × List Factor)) (hnd : ∀ t ∈ g, t.2.Nodup)
    (e : Contrasts.Err) : pickContrasts g ≠ .error e := by
  obtain ⟨out, hok, _⟩ := C03_pick_contrasts_partition g hnd
  rw [hok]; intro h; cases h

def absorbFails (long short : Subterm) (e : Contrasts.Err) : Bool :=
  match absorb long short with
  | .ok _ => false
  | .error e' => e == e'

/-- the `assert`s are real: on subterms that are not produced by `pick_contrast` they fire -/
example : absorbFails [("a", true), ("b", false)] [("b", false)] .assertFull = true := by decide +kernel
example : absorbFails [("a", false), ("b", false)] [("c", false)] .assertDiff = true := by decide +kernel

/-- **C03_columns_count.**  For all level counts ≥ 1 (treatment coding: a full factor contributes n
columns, a reduced one n − 1), a coding that partitions the down-closure of the family has
exactly `Σ_N Σ_{U ∈ downset_N} Π_{f ∈ U} (n_f − 1)` columns — the dimension of the model space. -/
theorem C03_columns_count (levels : String → Nat) (hpos : ∀ f, 1 ≤ levels f) (fam : List STerm)
    (coding : List CTerm) (hnd : ∀ c ∈ coding, (c.red ++ c.full).Nodup) (hp : Partition fam coding) :
    totalColumns levels coding = modelDim levels fam := by
  -- every coded term lies under a term of the family
  have hunder : ∀ c ∈ coding, ∃ t ∈ fam, sameSet t.num c.num = true ∧ ∀ f ∈ c.red ++ c.full, f ∈ t.cat := by
    intro c hc
    have h := hp c.num (c.red ++ c.full)
    have hpos' : 0 < count coding c.num (c.red ++ c.full) := by
      simp only [count]
      apply List.countP_pos_iff.2
      refine ⟨c, hc, ?_⟩
      simp only [Bool.and_eq_true, inInterval, subsetOf_iff, sameSet_iff]
      exact ⟨by simp, fun x hx => List.mem_append.2 (Or.inl hx), fun x hx => hx⟩
    rw [h] at hpos'
    by_cases hd : inDownset fam c.num (c.red ++ c.full) = true
    · simp only [inDownset, List.any_eq_true, Bool.and_eq_true, subsetOf_iff] at hd
      obtain ⟨t, ht, h1, h2⟩ := hd
      exact ⟨t, ht, h1, h2⟩
    · simp [hd] at hpos'
  let univ := dedupStr (fam.flatMap (·.cat))
  have hu : univ.Nodup := nodup_dedupStr _
  have hc : ∀ c ∈ coding, ∀ f ∈ c.red ++ c.full, f ∈ univ := by
    intro c hcm f hf
    obtain ⟨t, ht, _, h2⟩ := hunder c hcm
    exact mem_dedupStr.2 (List.mem_flatMap.2 ⟨t, ht, h2 f hf⟩)
  show totalColumns levels coding =
    sumList ((distinctParts (fam.map (·.num))).map (blockDim levels univ fam))
  have hb : ∀ N, blockDim levels univ fam N =
      totalColumns levels (coding.filter (fun c => sameSet c.num N)) :=
    fun N => (block_columns levels hpos fam coding univ hu hnd hc hp N).symm
  rw [sumList_congr _ _ _ (fun N _ => hb N)]
  -- regroup the columns by block
  have h1 := fun N => totalColumns_filter levels coding N
  rw [sumList_congr _ _ _ (fun N _ => h1 N), ← sumList_swap]
  unfold totalColumns
  apply sumList_congr
  intro c hcm
  rw [sumList_ite_countP, distinctParts_count]
  obtain ⟨t, ht, h1, _⟩ := hunder c hcm
  have : (fam.map (·.num)).any (fun N => sameSet c.num N) = true := by
    rw [List.any_eq_true]
    exact ⟨t.num, List.mem_map.2 ⟨t, ht, rfl⟩, by rw [sameSet_symm]; exact h1⟩
  simp [this]

/-- … in particular for what `pick_contrasts` returns, for every family in every order. -/
theorem C03_pick_contrasts_columns (levels : String → Nat) (hpos : ∀ f, 1 ≤ levels f)
    (g : List (String × List Factor)) (hnd : ∀ t ∈ g, t.2.Nodup) :
    ∃ out, pickContrasts g = .ok out ∧
      totalColumns levels (codedOfOutput out) = modelDim levels (famOfGroup g) := by
  obtain ⟨out, hok, _, hwf, hp⟩ := C03_pick_contrasts_partition g hnd
  refine ⟨out, hok, C03_columns_count levels hpos _ _ ?_ hp⟩
  intro c hc
  simp only [codedOfOutput, List.mem_flatMap, List.mem_map] at hc
  obtain ⟨e, he, cd, hcd, rfl⟩ := hc
  have hw : (cd.map (·.1)).Nodup := hwf e he cd hcd
  simp only [ctermOfCoding, ← List.map_append]
  have hperm : (cd.filter (fun e => !e.2) ++ cd.filter (fun e => e.2)).Perm cd := by
    have := List.filter_append_perm (fun e : String × Bool => !e.2) cd
    simpa using this
  exact (hperm.map (·.1)).nodup_iff.2 hw

/-- **C03_widths_one.**  The width-aware column count and dimension formula the driver evaluates for
cases with multi-column numeric atoms (`poly(v, 2)`, `bs(v, df=3)`) are the ones of
`C03_columns_count` when every numeric atom has one column. -/
theorem C03_widths_one (levels : String → Nat) (fam : List STerm) (coding : List CTerm) :
    totalColumnsW levels (fun _ => 1) coding = totalColumns levels coding ∧
    modelDimW levels (fun _ => 1) fam = modelDim levels fam := by
  have h1 : ∀ l : List String, prodList (l.map (fun _ => 1)) = 1 := by
    intro l; induction l with
    | nil => rfl
    | cons a t ih => simp [prodList, ih]
  have hw : ∀ num : List String, numWidth (fun _ => 1) num = 1 := fun num => h1 _
  have hc : columnsW levels (fun _ => 1) = columns levels := by
    funext c; simp [columnsW, hw]
  constructor
  · simp [totalColumnsW, totalColumns, hc]
  · simp [modelDimW, modelDim, hw]

/-- non-vacuity of the width-aware formula: `y ~ 0 + f:p` with a 3-level factor and a 2-column
numeric atom `p` — 6 columns, dimension 6 -/
example : totalColumnsW (fun _ => 3) (fun a => if a = "p" then 2 else 1)
      [{ red := [], full := ["f"], num := ["p"] }] = 6 ∧
    modelDimW (fun _ => 3) (fun a => if a = "p" then 2 else 1) [{ cat := ["f"], num := ["p"] }] = 6 := by
  decide +kernel

/-- non-vacuity: `y ~ 0 + f:g:h` with 2, 3, 4 levels — one coding, all factors full, 24 columns -/
example : (match pickContrasts [("f:g:h", ["f", "g", "h"])] with
    | .ok out => totalColumns (fun f => if f = "f" then 2 else if f = "g" then 3 else 4)
        (codedOfOutput out) == 24 &&
        modelDim (fun f => if f = "f" then 2 else if f = "g" then 3 else 4)
          (famOfGroup [("f:g:h", ["f", "g", "h"])]) == 24
    | .error _ => false) = true := by decide +kernel

/-- the executable predicate run by the driver is implied by the specification -/
theorem partition_of_Partition {fam : List STerm} {coding : List CTerm} (h : Partition fam coding) :
    partition fam coding = true := by
  simp only [partition, List.all_eq_true, beq_iff_eq]
  intro N _ U _
  exact h N U

/-- the inputs the property quantifies over: component names inside a term pairwise distinct,
every name has one kind throughout the family.  Families with `Call` components that would need
a copy are not excluded. -/
def WellFormedFam (fam : List TermDesc) : Bool :=
  fam.all (fun t => decide ((t.comps.map (·.name)).Nodup)) &&
  fam.all (fun t => t.comps.all (fun c => fam.all (fun u => u.comps.all (fun d =>
    c.name != d.name || c.kind == d.kind))))

/-- **C03_pipeline (full statement, false on the pinned tree).**  For every family, `Model.eval`
succeeds and the terms of the design matrix, with the flags it used, partition the down-closure
of the family in every numeric block. -/
def C03_pipeline_Statement : Prop :=
  ∀ fam : List TermDesc, WellFormedFam fam = true →
    ∃ coded, run false fam = .ok coded ∧
      Partition (fam.map ofTerm) ((designTerms coded).map ofCoded)

def catC (n : String) : Comp := { name := n, kind := .categoric, isCall := false }
def numC (n : String) : Comp := { name := n, kind := .numeric, isCall := false }
def callC (n : String) : Comp := { name := n, kind := .categoric, isCall := true }

def runFailsWith (envCopyable : Bool) (fam : List TermDesc) (e : Encoding.Err) : Bool :=
  match run envCopyable fam with
  | .ok _ => false
  | .error e' => e == e'

/-- D6 `y ~ f:g + f`: the second analysis leaves `f` without a coding, `encodings["f"][0]` raises. -/
def famD6 : List TermDesc := [.intercept, .term (catC "f") [catC "g"], .term (catC "f") []]
theorem C03_counterexample_D6 :
    WellFormedFam famD6 = true ∧ runFailsWith false famD6 .indexError = true ∧
    emptyCodingSecondPass false famD6 = true := by decide +kernel

/-- D7 `y ~ f:g:h`: the second analysis still has two codings for `f:h`; only the first is used and
3 of the 24 directions (level counts 2, 3, 4) are lost. -/
def famD7 : List TermDesc := [.intercept, .term (catC "f") [catC "g", catC "h"]]
theorem C03_counterexample_D7 :
    WellFormedFam famD7 = true ∧ modelHolds false famD7 = false ∧
    multipleSubtermsSecondPass false famD7 = true ∧ SinglePass2 false famD7 = false := by
  decide +kernel

/-- D8 `y ~ z:x + f:x:z`: the numeric part `x:z` is not found under the name `z:x`; `f` is coded
full although `z:x` already spans the constant direction of that block. -/
def famD8 : List TermDesc :=
  [.intercept, .term (numC "z") [numC "x"], .term (catC "f") [numC "x", numC "z"]]
theorem C03_counterexample_D8 :
    WellFormedFam famD8 = true ∧ modelHolds false famD8 = false ∧
    numericPartOrderMismatch famD8 = true ∧ SinglePass2 false famD8 = true := by decide +kernel

/-- D9 `y ~ g:C(k)`: the helper term `C(k)` cannot be built (deep copy of a typed `Call`). -/
def famD9 : List TermDesc := [.intercept, .term (catC "g") [callC "C(k)"]]
theorem C03_counterexample_D9 :
    WellFormedFam famD9 = true ∧ runFailsWith false famD9 .deepcopy = true ∧
    extraTermNeedsCallCopy famD9 = true := by decide +kernel

/-- D21 (finding KF-C03-D26) `y ~ 0 + x:z + z:x`: the same numeric term written in two orders is kept twice. -/
def famD21 : List TermDesc := [.term (numC "x") [numC "z"], .term (numC "z") [numC "x"]]
theorem C03_counterexample_D21 :
    WellFormedFam famD21 = true ∧ modelHolds false famD21 = false ∧
    duplicateTermUpToOrder famD21 = true := by decide +kernel

theorem modelHolds_of_statement (h : C03_pipeline_Statement) (fam : List TermDesc)
    (hw : WellFormedFam fam = true) : modelHolds false fam = true := by
  obtain ⟨coded, hrun, hp⟩ := h fam hw
  simp only [modelHolds, hrun, holds]
  exact partition_of_Partition hp

/-- the full statement is false of the code as it is -/
theorem C03_pipeline_false : ¬ C03_pipeline_Statement := by
  intro h
  have h1 := modelHolds_of_statement h famD7 C03_counterexample_D7.1
  rw [C03_counterexample_D7.2.1] at h1
  cases h1

/-- **C03_pipeline_partial.**  For every family (no bound on the number of terms, factors, or on the
mix of categorical / numeric / call components) on which `Model.eval` succeeds: if
* the second redundancy analysis returns exactly one coding for every term (`SinglePass2`; fails
  exactly in the D6 / D7 situations),
* the grouping stage is faithful on the family it analyses — names determine terms, group keys are
  pairwise distinct, every group entry is a term with its categorical part, a group holds exactly
  the terms of one numeric block, a term outside every group is purely numeric and alone in its
  block (`faithfulB`; fails in the D8 / D21 (KF-C03-D26) situations), and
* the helper terms added by `add_extra_terms` are margins of terms of the family (`marginsOf`),
all three decidable and evaluated by the driver on every explored case (`pipelineGuard`), then the
terms of the design matrix, with the full / reduced flags actually handed to `set_data`, partition
the down-closure of the family in every numeric block — i.e. (bridge) the matrix has full column
rank and spans exactly the model space. -/
theorem C03_pipeline_partial (envCopyable : Bool) (fam : List TermDesc) (coded : List CodedTerm)
    (hrun : run envCopyable fam = .ok coded) (hguard : pipelineGuard envCopyable fam = true) :
    Partition (fam.map ofTerm) ((designTerms coded).map ofCoded) := by
  simp only [pipelineGuard, Bool.and_eq_true] at hguard
  obtain ⟨hsp, hrest⟩ := hguard
  cases hsf : secondFamily envCopyable fam with
  | error e => simp [hsf] at hrest
  | ok fam2 =>
    simp only [hsf, Bool.and_eq_true] at hrest
    obtain ⟨hfb, hmarg⟩ := hrest
    exact pipeline_partial_of_faithful envCopyable fam fam2 coded hrun hsp hsf (faithful_of_faithfulB hfb)
      (inDownset_of_marginsOf hmarg)

/-- … hence the executable predicate the driver evaluates is true on the model's output -/
theorem C03_pipeline_partial_holds (envCopyable : Bool) (fam : List TermDesc)
    (hok : ∃ coded, run envCopyable fam = .ok coded) (hguard : pipelineGuard envCopyable fam = true) :
    modelHolds envCopyable fam = true := by
  obtain ⟨coded, hrun⟩ := hok
  simp only [modelHolds, hrun, holds]
  exact partition_of_Partition (C03_pipeline_partial envCopyable fam coded hrun hguard)

/-- non-vacuity: `y ~ f:g + g + x + z:f:x + z:x` — extra terms are created (`g` before `f:g`, duplicated
name), a numeric block with its numeric part present, and the guard holds -/
def famOk : List TermDesc :=
  [.intercept, .term (catC "f") [catC "g"], .term (catC "g") [], .term (numC "x") [],
   .term (numC "z") [catC "f", numC "x"], .term (numC "z") [numC "x"]]
example : pipelineGuard false famOk = true ∧ modelHolds false famOk = true ∧
    hierFamily famOk = false := by decide +kernel
/-- the counterexamples are outside the guard -/
example : pipelineGuard false famD6 = false ∧ pipelineGuard false famD7 = false ∧
    pipelineGuard false famD8 = false ∧ pipelineGuard false famD9 = false ∧
    pipelineGuard false famD21 = false := by decide +kernel

/-- **C03_hierarchical.**  If in every analysis group of the family every term is preceded by all
its margins (all proper sub-terms already covered, the term itself new; a model without intercept
may start with a single factor) — `hierFamily`, decidable — then `add_extra_terms` adds nothing
and both analyses return exactly one coding for every term: the family is inside the guard of
`C03_pipeline_partial` (neither D6 nor D7 can occur). -/
theorem C03_hierarchical (envCopyable : Bool) (fam : List TermDesc) (h : hierFamily fam = true) :
    secondFamily envCopyable fam = .ok fam ∧ SinglePass2 envCopyable fam = true ∧
    emptyCodingSecondPass envCopyable fam = false ∧
    multipleSubtermsSecondPass envCopyable fam = false := by
  obtain ⟨h2, hs⟩ := hierarchical_singlePass envCopyable fam h
  exact ⟨h2, hs, singlePass2_excludes hs⟩

/-- **C03_hierarchical_categorical** (end to end, purely syntactic hypotheses).  For every family of
categorical terms, with or without intercept, of any size — component names of a term pairwise
distinct, term names pairwise distinct (`AllCategoric`) — that is written margins first
(`hierGroup` on the terms as written, the intercept moved to the front): `Model.eval` succeeds,
creates no helper term, and the coded design partitions the down-closure of the family. -/
theorem C03_hierarchical_categorical (envCopyable : Bool) (fam : List TermDesc) (hc : AllCategoric fam)
    (hh : hierGroup ((moveInterceptFirst fam).map catEntry) = true) :
    ∃ coded, run envCopyable fam = .ok coded ∧ secondFamily envCopyable fam = .ok fam ∧
      Partition (fam.map ofTerm) ((designTerms coded).map ofCoded) := by
  have hf := faithful_categoric fam hc
  refine hierarchical_partition envCopyable fam ?_ hf
  simp only [hierFamily, List.all_eq_true, Bool.and_eq_true, decide_eq_true_eq]
  intro g hg
  refine ⟨fun e he => hf.groupNodup g hg e he, ?_⟩
  rw [encodingGroups_categoric fam hc] at hg
  rw [List.mem_singleton.1 hg]; exact hh

/-- non-vacuity: `y ~ f + g + f:g` satisfies both hypotheses -/
example : AllCategoric [.intercept, .term (catC "f") [], .term (catC "g") [], .term (catC "f") [catC "g"]] ∧
    hierGroup ((moveInterceptFirst [.intercept, .term (catC "f") [], .term (catC "g") [],
      .term (catC "f") [catC "g"]]).map catEntry) = true :=
  ⟨⟨by decide +kernel, by decide +kernel, by decide +kernel⟩, by decide +kernel⟩

/-- non-vacuity: `y ~ f + g + f:g + f:x + x` … margins first, with an intercept, a numeric block -/
example : hierFamily [.intercept, .term (catC "f") [], .term (catC "g") [],
    .term (catC "f") [catC "g"], .term (numC "x") [], .term (catC "f") [numC "x"]] = true := by
  decide +kernel
/-- … and without intercept: `y ~ 0 + f + g + f:g` -/
example : hierFamily [.term (catC "f") [], .term (catC "g") [], .term (catC "f") [catC "g"]] = true := by
  decide +kernel
/-- an interaction before its margin is not margins-first -/
example : hierFamily famD6 = false := by decide +kernel

end FormulaeModel.C03
