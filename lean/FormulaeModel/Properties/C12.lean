import FormulaeModel.Proofs.LazyTree
import FormulaeModel.Proofs.LazyName
import FormulaeModel.Properties.C01
/-
C12 — property theorems (statements only use Model/, Spec/C01, Spec/C12 and Generated/).

How the pieces give the statement "the value of a call term equals the result of evaluating the
same text as a Python expression":

  text --scan/parse (C01)--> e,  e.flat = tokens             (C01_yield)
                                  Stratified e                (C01_stratified)
  PyAlphabet e ∧ PowCompatible e  ⟹  PyStratified e          (C12_same_tree_partial)
      i.e. e is a derivation of *Python's* grammar for the same tokens; Python's grammar is
      unambiguous, so e is the tree Python reads (this last step is an argument, not a Lean
      theorem: there is no Python parser in the model)
  PyAlphabet e ∧ Chainless e      ⟹  the lazy tree evaluates to pyEval e   (C12_eval_partial)

Outside `PyCompatible = PowCompatible ∧ Chainless` the statement is false of the code (D15);
`C12_counterexample_D15_*` exhibit Python's tree for the same tokens and the two different values.
-/
namespace FormulaeModel.C12
open FormulaeModel.Lazy FormulaeModel.Spec.C01
  FormulaeModel.Spec.C12

/-- the operator tables as regenerated from `formulae.terms.call_resolver` on this run -/
def generatedOps : OpTable :=
  ⟨Generated.callBinaryOps, Generated.callUnaryOps, Generated.callSymbols⟩

theorem tables_shape : Generated.callTablesShapeOk = true := by decide

/-- `BINARY_OPERATORS`, `UNARY_OPERATORS`, `SYMBOLS` are the documented tables -/
theorem tables_tie : generatedOps = documentedOps := rfl

/-- every infix token kind is mapped to the `operator` function that *is* Python's meaning of that
token, and printed with Python's spelling; all other kinds are refused -/
theorem table_binary_is_python (k : Kind) :
    (lookup generatedOps.binary k.name).bind BinOp.ofName? = pyBinOp k ∧
    (lookup generatedOps.binary k.name).bind (lookup generatedOps.symbols)
      = (pyBinOp k).map (fun _ => pySymbol k) := by
  rw [tables_tie]
  exact doc_binary_is_python k

theorem table_unary_is_python (k : Kind) :
    (lookup generatedOps.unary k.name).bind UnOp.ofName? = pyUnOp k ∧
    (lookup generatedOps.unary k.name).bind (lookup generatedOps.symbols)
      = (pyUnOp k).map (fun _ => pySymbol k) := by
  rw [tables_tie]
  exact doc_unary_is_python k

deriving instance DecidableEq for Except

def tk (k : Kind) (s : String) : Token := ⟨k, s⟩
def tId (s : String) : Token := ⟨.IDENTIFIER, s⟩
def tNum (s : String) : Token := ⟨.NUMBER, s⟩
def tL : Token := ⟨.LEFT_PAREN, "("⟩
def tR : Token := ⟨.RIGHT_PAREN, ")"⟩

def treeOf (ts : List Token) : Option Expr := exprOfParse (Parser.parse Generated.parserTable ts)

/-- an environment for the examples: `x = 3`, `z = 7`, `w = [1, 2, 4]`; `f` returns its first
positional argument -/
def exEnv : Env where
  var := fun n =>
    if n == "x" then some (.num 3) else if n == "z" then some (.num 7)
    else if n == "w" then some (.vec [1, 2, 4]) else none
  fn := fun n => if n == "f" then some (fun xs _ => .ok (xs.headD .none)) else none

def lazyValue (env : Env) (e : Expr) : Option (Except EvalErr Val) :=
  match resolveCall generatedOps e with
  | .ok t => some (t.eval env)
  | .error _ => none

/-- **Full statement** (false on the pinned tree, D15): every tree the formula grammar derives on
the Python alphabet is Python's reading of its tokens. -/
def C12_same_tree_statement : Prop :=
  ∀ e : Expr, Stratified documentedTable e = true → PyAlphabet e = true → PyStratified e = true

/-- On the Python alphabet, a derivation of the formula grammar in which no `**` has a bare prefix
sign or a bare `**` as its left operand is a derivation of Python's grammar: same operands for
every operator, for trees of any size. -/
theorem C12_same_tree_partial (e : Expr) (hS : Stratified documentedTable e = true)
    (hA : PyAlphabet e = true) (hC : PowCompatible e = true) : PyStratified e = true := by
  unfold PyStratified
  rw [hA, Bool.true_and]
  exact pyLevels_of_strat e (stratBin_of_stratTop e hA hS) hA hC

/-- … in particular for every tree the parser returns (current source tables). -/
theorem C12_parsed_tree_partial (ts : List Token) (e : Expr)
    (h : Parser.parse Generated.parserTable ts = .ok e) (hA : PyAlphabet e = true)
    (hC : PowCompatible e = true) : e.flat = ts ∧ PyStratified e = true :=
  ⟨C01.C01_yield_generated ts e h,
   C12_same_tree_partial e (C01.C01_stratified_documented ts e h) hA hC⟩

-- non-vacuity: `f(x + z * 2 ** -x < z, k = (x - z) / 2)` satisfies the hypotheses
def exToks : List Token :=
  [tId "f", tL, tId "x", tk .PLUS "+", tId "z", tk .STAR "*", tNum "2", tk .STAR_STAR "**",
   tk .MINUS "-", tId "x", tk .LESS "<", tId "z", tk .COMMA ",", tId "k", tk .EQUAL "=", tL,
   tId "x", tk .MINUS "-", tId "z", tR, tk .SLASH "/", tNum "2", tR]

example : ∃ e, Parser.parse Generated.parserTable exToks = .ok e ∧
    Stratified documentedTable e = true ∧ PyAlphabet e = true ∧ PyCompatible e = true := by
  have h : (match treeOf exToks with
      | some e => PyAlphabet e && PyCompatible e
      | none => false) = true := by decide +kernel
  unfold treeOf at h
  cases hp : Parser.parse Generated.parserTable exToks with
  | error _ => simp [hp, exprOfParse] at h
  | ok e =>
    simp only [hp, exprOfParse, Bool.and_eq_true] at h
    exact ⟨e, rfl, C01.C01_stratified_documented _ e hp, h.1, h.2⟩

/-- **Full statement** (false on the pinned tree, D15): on the Python alphabet the call term
evaluates to Python's value of the tree. -/
def C12_eval_statement : Prop :=
  ∀ (env : Env) (e : Expr), PyAlphabet e = true →
    ∃ t, resolveCall generatedOps e = .ok t ∧ t.eval env = pyEval env e

/-- On the Python alphabet `CallResolver` accepts the tree, and evaluating the lazy tree applies
Python's operator to Python's values of the operands, passes Python's values of the positional
arguments in order and of the keyword arguments by name — provided the tree contains no comparison
chain.  For every environment (including callees that fail) and trees of any size; errors are
part of the equation. -/
theorem C12_eval_partial (env : Env) (e : Expr) (hA : PyAlphabet e = true)
    (hC : Chainless e = true) :
    ∃ t, resolveCall generatedOps e = .ok t ∧ t.eval env = pyEval env e := by
  rw [tables_tie]
  exact eval_resolve env e hA hC

/-- The two parts together, for parser output: inside `PyCompatible` the tree is Python's tree and
the call term's value is Python's value. -/
theorem C12_value_partial (env : Env) (ts : List Token) (e : Expr)
    (h : Parser.parse Generated.parserTable ts = .ok e) (hA : PyAlphabet e = true)
    (hC : PyCompatible e = true) :
    e.flat = ts ∧ PyStratified e = true ∧
      ∃ t, resolveCall generatedOps e = .ok t ∧ t.eval env = pyEval env e := by
  have hC := Bool.and_eq_true_iff.mp hC
  have ⟨h1, h2⟩ := C12_parsed_tree_partial ts e h hA hC.1
  exact ⟨h1, h2, C12_eval_partial env e hA hC.2⟩

-- non-vacuity: the example above evaluates (to the same value on both sides)
example : (match treeOf exToks with
    | some e => lazyValue exEnv e == some (pyEval exEnv e) && (pyEval exEnv e).toOption.isSome
    | none => false) = true := by decide +kernel

/-- what D15 means for one token list: the parser's tree `e` (a derivation of the formula grammar
by `C01_stratified`) is accepted and evaluated by the code to `v`, while `py` — a derivation of
Python's grammar for the *same tokens* — has the Python value `v' ≠ v` -/
def d15Witness (env : Env) (ts : List Token) (py : Expr) : Bool :=
  match treeOf ts with
  | some e =>
    PyAlphabet e && !PyCompatible e
      && py.flat == ts && PyStratified py
      && (match lazyValue env e with
          | some v => v != pyEval env py && v.toOption.isSome && (pyEval env py).toOption.isSome
          | none => false)
  | none => false

/-- `f(-x**2)`: the code evaluates `(-x)**2 = 9`, Python `-(x**2) = -9` -/
theorem C12_counterexample_D15_sign :
    d15Witness exEnv
      [tId "f", tL, tk .MINUS "-", tId "x", tk .STAR_STAR "**", tNum "2", tR]
      (.call (.variable (tId "f")) tL
        (.last (.unary (tk .MINUS "-")
          (.binary (.variable (tId "x")) (tk .STAR_STAR "**") (.literal (tNum "2"))))) tR)
      = true := by decide +kernel

/-- `f(2**x**2)`: the code evaluates `(2**x)**2 = 64`, Python `2**(x**2) = 512` -/
theorem C12_counterexample_D15_pow :
    d15Witness exEnv
      [tId "f", tL, tNum "2", tk .STAR_STAR "**", tId "x", tk .STAR_STAR "**", tNum "2", tR]
      (.call (.variable (tId "f")) tL
        (.last (.binary (.literal (tNum "2")) (tk .STAR_STAR "**")
          (.binary (.variable (tId "x")) (tk .STAR_STAR "**") (.literal (tNum "2"))))) tR)
      = true := by decide +kernel

/-- `f(x < z < 3)` with `x = 3, z = 7`: the code evaluates `(x < z) < 3 = True`, Python the chain
`x < z and z < 3 = False` (the same spine, read as a chain by `pyEval`) -/
theorem C12_counterexample_D15_chain :
    d15Witness exEnv
      [tId "f", tL, tId "x", tk .LESS "<", tId "z", tk .LESS "<", tNum "3", tR]
      (.call (.variable (tId "f")) tL
        (.last (.binary (.binary (.variable (tId "x")) (tk .LESS "<") (.variable (tId "z")))
          (tk .LESS "<") (.literal (tNum "3")))) tR)
      = true := by decide +kernel

theorem C12_same_tree_statement_false : ¬ C12_same_tree_statement := by
  intro h
  have hp : Parser.parse Generated.parserTable
      [tk .MINUS "-", tId "x", tk .STAR_STAR "**", tNum "2"]
      = .ok (.binary (.unary (tk .MINUS "-") (.variable (tId "x"))) (tk .STAR_STAR "**")
          (.literal (tNum "2"))) := by decide +kernel
  have := h _ (C01.C01_stratified_documented _ _ hp) (by decide +kernel)
  revert this
  decide +kernel

theorem C12_eval_statement_false : ¬ C12_eval_statement := by
  intro h
  obtain ⟨t, h1, h2⟩ := h exEnv
    (.binary (.binary (.variable (tId "x")) (tk .LESS "<") (.variable (tId "z")))
      (tk .LESS "<") (.literal (tNum "3"))) (by decide)
  have h3 : resolveCall generatedOps
      (.binary (.binary (.variable (tId "x")) (tk .LESS "<") (.variable (tId "z")))
        (tk .LESS "<") (.literal (tNum "3")))
      = .ok (.op2 "lt" "<" (.op2 "lt" "<" (.var "x") (.var "z")) (.value (.int 3) none)) := by
    decide +kernel
  rw [h3] at h1
  cases h1
  revert h2
  decide +kernel

/-- `{e}` resolves to exactly the lazy call that `I(e)` resolves to (whatever `e` is: a keyword
`{k = e}` becomes `I(k=e)`, an unresolvable `e` fails in the same way), for any tables. -/
theorem C12_brace (T : OpTable) (lb rb lp rp : Token) (e : Expr) :
    resolveCall T (.brace lb e rb)
      = resolveCall T (.call (.variable ⟨.IDENTIFIER, "I"⟩) lp (.last e) rp) := by
  unfold resolveCall
  cases hA : isAssign e with
  | true =>
    cases e <;> first | cases hA | skip
    rename_i n eq v
    simp only [resolve, resolveArgs]
    cases resolve T v with
    | error _ => rfl
    | ok a => cases assignName n <;> rfl
  | false =>
    simp only [resolve, resolve_brace_other T lb rb e hA, resolveArgs_last_other T e hA]
    cases resolve T e <;> rfl

-- non-vacuity: `{x + 1}` and `I(x + 1)` both resolve, to a call of `I`
example : resolveCall generatedOps
    (.brace ⟨.LEFT_BRACE, "{"⟩ (.binary (.variable (tId "x")) (tk .PLUS "+") (.literal (tNum "1")))
      ⟨.RIGHT_BRACE, "}"⟩)
    = .ok (.call "I" (.cons (.op2 "add" "+" (.var "x") (.value (.int 1) none)) .nil) .nil) := by
  decide +kernel

/-- Redundant (and non-redundant!) grouping parentheses never reach the lazy tree, hence never the
name: removing all of them gives the same `LazyCall`.  For any tables and any tree that resolves. -/
theorem C12_name_parentheses (T : OpTable) (e : Expr) (t : Lazy)
    (h : resolveCall T e = .ok t) : resolveCall T (ungroup e) = .ok t :=
  resolve_ungroup T e t h

/-- On the Python alphabet the name of the call term is the token sequence of the call, grouping
parentheses removed, written with single spaces (`canonText`: infix operators spaced, prefix signs
and `=` glued, `, ` after commas, numbers as Python prints their value, strings with their own
quotes).  The name is therefore a function of the tokens alone — whitespace never reaches it (the
scanner drops it: C01) — and of the tokens without their grouping parentheses. -/
theorem C12_name (e : Expr) (hA : PyAlphabet e = true) :
    ∃ t, resolveCall generatedOps e = .ok t ∧ t.str = canonText (ungroup e).flat := by
  rw [tables_tie]
  obtain ⟨t, h1, h2⟩ := canon_resolve e hA
  refine ⟨t, h1, ?_⟩
  have := h2 []
  simp only [List.append_nil] at this
  simp [canonText, this, canonGo]

/-- the whole pipeline from characters to the term name (scanner without the implicit intercept,
parser and operator tables as regenerated from the source) -/
def nameOfText (s : List Char) : Option String :=
  match Scanner.scan s false with
  | .ok ts =>
    match Parser.parse Generated.parserTable ts with
    | .ok e => (callName generatedOps e).toOption
    | .error _ => none
  | .error _ => none

/-- Whitespace: the name is computed from the token list alone, so two spellings that the scanner
maps to the same tokens (C01: whitespace is dropped between tokens) have the same name. -/
theorem C12_name_whitespace (s₁ s₂ : List Char)
    (h : Scanner.scan s₁ false = Scanner.scan s₂ false) : nameOfText s₁ = nameOfText s₂ := by
  simp [nameOfText, h]

/-- Textual variants: two calls on the Python alphabet whose token sequences agree once grouping
parentheses are deleted have the same name. -/
theorem C12_name_variants (e₁ e₂ : Expr) (h₁ : PyAlphabet e₁ = true) (h₂ : PyAlphabet e₂ = true)
    (h : (ungroup e₁).flat = (ungroup e₂).flat) :
    callName generatedOps e₁ = callName generatedOps e₂ := by
  obtain ⟨t₁, r₁, s₁⟩ := C12_name e₁ h₁
  obtain ⟨t₂, r₂, s₂⟩ := C12_name e₂ h₂
  simp [callName, r₁, r₂, Except.map, s₁, s₂, h]

-- non-vacuity and a concrete name: `f( (x+z)*2, k = 1.50 )`
example : (match treeOf [tId "f", tL, tL, tId "x", tk .PLUS "+", tId "z", tR, tk .STAR "*",
      tNum "2", tk .COMMA ",", tId "k", tk .EQUAL "=", tNum "1.50", tR] with
    | some e => PyAlphabet e && callName generatedOps e == .ok "f(x + z * 2, k=1.5)"
    | none => false) = true := by decide +kernel

/-- **Full statement** (false on the pinned tree, D16): different calls have different names. -/
def C12_name_injective_statement : Prop :=
  ∀ (e₁ e₂ : Expr) (t₁ t₂ : Lazy), resolveCall generatedOps e₁ = .ok t₁ →
    resolveCall generatedOps e₂ = .ok t₂ → t₁.str = t₂.str → t₁ = t₂

/-- Two calls whose normalised token sequences (grouping parentheses deleted — by `C12_name` the
name is `canonText` of exactly that sequence) coincide are the *same* lazy tree, provided that in
both the grouping is inert: deleting the parentheses from the text and parsing again gives the
same tree.  For any parser table and any operator tables.  (The remaining step from equal name
*strings* to equal token sequences — `canonText` is injective on the lexemes the scanner can
produce — is lexical and is carried by the correspondence check against Python's `ast`.) -/
theorem C12_name_injective_partial (P : Parser.Table) (T : OpTable) (e₁ e₂ : Expr) (t₁ t₂ : Lazy)
    (g₁ : GroupingInert P e₁ = true) (g₂ : GroupingInert P e₂ = true)
    (r₁ : resolveCall T e₁ = .ok t₁) (r₂ : resolveCall T e₂ = .ok t₂)
    (h : (ungroup e₁).flat = (ungroup e₂).flat) : t₁ = t₂ := by
  have hu : some (ungroup e₁) = some (ungroup e₂) := (eq_of_beq g₁).symm.trans (h ▸ eq_of_beq g₂)
  have a := C12_name_parentheses T e₁ t₁ r₁
  rw [Option.some.inj hu, C12_name_parentheses T e₂ t₂ r₂] at a
  exact (Except.ok.inj a).symm

-- non-vacuity: `f((x)+z*2)` and `f(x+(z*2))` satisfy the hypotheses (and are one term)
example : (match treeOf [tId "f", tL, tL, tId "x", tR, tk .PLUS "+", tId "z", tk .STAR "*",
      tNum "2", tR],
    treeOf [tId "f", tL, tId "x", tk .PLUS "+", tL, tId "z", tk .STAR "*", tNum "2", tR, tR] with
    | some e₁, some e₂ =>
      GroupingInert Generated.parserTable e₁ && GroupingInert Generated.parserTable e₂
        && (ungroup e₁).flat == (ungroup e₂).flat
        && (resolveCall generatedOps e₁).toOption.isSome
    | _, _ => false) = true := by decide +kernel

/-- D16: `f((x+z)*2)` and `f(x+z*2)` are different lazy trees with the same name
`f(x + z * 2)`; the grouping of the first is not inert. -/
def d16Left : List Token :=
  [tId "f", tL, tL, tId "x", tk .PLUS "+", tId "z", tR, tk .STAR "*", tNum "2", tR]
def d16Right : List Token :=
  [tId "f", tL, tId "x", tk .PLUS "+", tId "z", tk .STAR "*", tNum "2", tR]

theorem C12_counterexample_D16 :
    (match treeOf d16Left, treeOf d16Right with
     | some e₁, some e₂ =>
       nameCollision generatedOps e₁ e₂ && !GroupingInert Generated.parserTable e₁
         && GroupingInert Generated.parserTable e₂
         && callName generatedOps e₁ == .ok "f(x + z * 2)"
     | _, _ => false) = true := by decide +kernel

theorem C12_name_injective_statement_false : ¬ C12_name_injective_statement := by
  intro h
  have := h
    (.binary (.grouping tL (.binary (.variable (tId "x")) (tk .PLUS "+") (.variable (tId "z"))) tR)
      (tk .STAR "*") (.literal (tNum "2")))
    (.binary (.variable (tId "x")) (tk .PLUS "+")
      (.binary (.variable (tId "z")) (tk .STAR "*") (.literal (tNum "2"))))
    (.op2 "mul" "*" (.op2 "add" "+" (.var "x") (.var "z")) (.value (.int 2) none))
    (.op2 "add" "+" (.var "x") (.op2 "mul" "*" (.var "z") (.value (.int 2) none)))
    (by decide +kernel) (by decide +kernel) (by decide +kernel)
  revert this
  decide

/-- **Full statement** (false on the pinned tree, KF-C12-D27): call terms that the formula treats as one
term (`__eq__`) are the same lazy tree. -/
def C12_term_identity_statement : Prop :=
  ∀ (e₁ e₂ : Expr) (t₁ t₂ : Lazy), resolveCall generatedOps e₁ = .ok t₁ →
    resolveCall generatedOps e₂ = .ok t₂ → t₁.pyEq t₂ = true → t₁ = t₂

/-- KF-C12-D27: `f(2)` and `f(2.0)` (likewise `f(1)` and `f(True)`) have different names and pass
different values, but `LazyValue.__eq__` compares `2 == 2.0`, so they are one term. -/
theorem C12_counterexample_D21 :
    (match treeOf [tId "f", tL, tNum "2", tR], treeOf [tId "f", tL, tNum "2.0", tR],
           treeOf [tId "f", tL, tNum "1", tR], treeOf [tId "f", tL, tk .PYTHON_LITERAL "True", tR] with
     | some a, some b, some c, some d =>
       literalMerge generatedOps a b && literalMerge generatedOps c d
         && callName generatedOps a == .ok "f(2)" && callName generatedOps b == .ok "f(2.0)"
     | _, _, _, _ => false) = true := by decide +kernel

theorem C12_term_identity_statement_false : ¬ C12_term_identity_statement := by
  intro h
  have := h (.literal (tNum "2")) (.literal (tNum "2.0")) (.value (.int 2) none)
    (.value (.float 2 "2.0") none) (by decide +kernel) (by decide +kernel) (by decide +kernel)
  revert this
  decide +kernel

end FormulaeModel.C12
