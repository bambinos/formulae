import FormulaeModel.Proofs.GroupBlockGroup
import FormulaeModel.Proofs.ShapeTerm
/-
As many labels as columns, without hypotheses on the frame.  Every contrast matrix has as many
labels as columns (`Coded.shape`); hence every component, every term (labels and data are folded by the same
product) and every group-specific block whose labels exist has rows exactly as wide as its label
list is long.
-/
namespace FormulaeModel.Design

/-- a component whose labels exist has rows as wide as the label list -/
def LabelWide (o : CompOut) : Prop := ∀ ls, o.labels = some ls → HasWidth o.value ls.length

theorem LabelWide.coded (st : CompState) (m : Matrix) (name : String) (cm : ContrastMatrix)
    (hw : HasWidth m cm.labels.length) : LabelWide ⟨st, m, some (categoricLabels name cm)⟩ := by
  intro ls hls r hr
  cases hls
  rw [hw r hr]
  simp [categoricLabels]

theorem LabelWide.column (st : CompState) (m : Matrix) (name : String) (hw : HasWidth m 1) :
    LabelWide ⟨st, m, some [name]⟩ := by
  intro ls hls
  cases hls
  exact hw

theorem valLeaf_width (st : CompState) (name : String) (full : Bool) (v : Val) (out : CompOut)
    (h : valLeaf st name full v = .ok out) : LabelWide out := by
  cases v <;> simp only [valLeaf, reduceCtorEq] at h
  case vec =>
    split at h
    · rw [bind_ok] at h
      obtain ⟨lv, hlv, h⟩ := h
      obtain ⟨levels, cm, m, hcat, rfl⟩ := catLeaf_ok.1 h
      exact LabelWide.coded _ _ _ _ (evalCategoric_coded hcat).shape.2.2
    · cases (pure_ok _ _).1 h
      exact LabelWide.column _ _ _ (hasWidth_colOfEntries _)
  case lvec =>
    obtain ⟨levels, cm, m, hcat, rfl⟩ := catLeaf_ok.1 h
    exact LabelWide.coded _ _ _ _ (evalCategoric_coded hcat).shape.2.2
  case box =>
    obtain ⟨levels, cm, m, hcat, rfl⟩ := catLeaf_ok.1 h
    exact LabelWide.coded _ _ _ _ (evalBox_coded hcat).shape.2.2

theorem compOfVal_width (n : Nat) (name : String) (e : Expr) (forced isResponse full : Bool)
    (v : Val) (ts : TS) (out : CompOut)
    (h : compOfVal n name e forced isResponse full v ts = .ok out) : LabelWide out := by
  cases v <;> simp only [compOfVal, reduceCtorEq] at h
  case vec | lvec | box => exact valLeaf_width _ _ _ _ _ h
  case offsetVar =>
    obtain ⟨_, _, rfl⟩ := offsetLeaf_ok.1 h
    exact LabelWide.column _ _ _ (hasWidth_colOfEntries _)
  case offsetConst =>
    obtain ⟨_, _, rfl⟩ := offsetLeaf_ok.1 h
    exact LabelWide.column _ _ _ (hasWidth_replicate _ [_])
  case prop =>
    split at h
    · cases h
    · cases (pure_ok _ _).1 h
      exact fun ls hls => nomatch hls

theorem compOfCol_width (name : String) (e : Expr) (forced isResponse full : Bool)
    (reference : Option String) (c : Column) (out : CompOut)
    (h : compOfCol name e forced isResponse full reference c = .ok out) : LabelWide out := by
  have h0 := h
  simp only [compOfCol] at h
  split at h
  · exact valLeaf_width _ _ _ _ _ h
  · rename_i xs d hv
    split at h
    · -- `y[level]`: however the levels are found, the data are one 0/1 column
      rw [compOfCol_ref _ _ _ _ _ _ _ _ hv] at h0
      split at h0
      · cases h0
      · simp only [bind_ok, pure_ok] at h0
        obtain ⟨levels, _, rfl⟩ := h0
        exact LabelWide.column _ _ _ (hasWidth_map _ _ 1 (fun _ => rfl))
    · exact valLeaf_width _ _ _ _ _ h
  · cases h

theorem trainComp_width (env : Env) (name : String) (e : Expr) (forced isResponse full : Bool)
    (out : CompOut) (h : trainComp env name e forced isResponse full = .ok out) : LabelWide out := by
  cases hc : isCallLike e with
  | true =>
    rw [trainComp_call _ _ _ _ _ _ hc] at h
    simp only [bind_ok] at h
    obtain ⟨⟨v, ts⟩, _, h⟩ := h
    exact compOfVal_width _ _ _ _ _ _ _ _ _ h
  | false =>
    rw [trainComp_var _ _ _ _ _ _ hc] at h
    split at h
    · simp at h
    · exact compOfCol_width _ _ _ _ _ _ _ _ h

/-- labels and data folded by the same product stay aligned -/
theorem foldl_width (outs : List CompOut) (hw : ∀ o ∈ outs, LabelWide o) (lss : List (List String))
    (h : outs.mapM (fun (o : CompOut) => o.labels) = some lss) (accM : Matrix) (accL : List String)
    (hacc : HasWidth accM accL.length) :
    HasWidth ((outs.map (·.value)).foldl interactionMatrix accM)
      (lss.foldl interactionLabels accL).length := by
  induction outs generalizing lss accM accL with
  | nil =>
    simp only [List.mapM_nil, Option.pure_def, Option.some.injEq] at h
    subst h
    exact hacc
  | cons o outs ih =>
    obtain ⟨l, ls', hl, hm, rfl⟩ := (option_mapM_cons _ _ _ _).1 h
    simp only [List.map_cons, List.foldl_cons]
    apply ih (fun o' ho' => hw o' (by simp [ho'])) ls' hm
    rw [interactionLabels_length]
    exact interactionMatrix_width _ _ _ _ hacc (hw o (by simp) l hl)

theorem trainTerm_width (env : Env) (table : List (String × Expr)) (spec : TermSpec)
    (forced isResponse : Bool) (out : TermOut)
    (h : trainTerm env table spec forced isResponse = .ok out) :
    ∀ ls, out.labels = some ls → HasWidth out.data ls.length := by
  unfold trainTerm at h
  simp only [bind_ok, pure_ok] at h
  obtain ⟨outs, houts, rfl⟩ := h
  have hw := mapM_forall _ LabelWide _ _ houts (by
    intro c hc o ho
    simp only [bind_ok] at ho
    obtain ⟨e, he, ho⟩ := ho
    exact trainComp_width env c.1 e _ _ _ o ho)
  intro ls hls
  simp only at hls ⊢
  cases hm : outs.mapM (fun (o : CompOut) => o.labels) with
  | none => rw [hm] at hls; cases hls
  | some lss =>
    rw [hm] at hls
    cases hls
    cases outs with
    | nil => intro r hr; cases hr
    | cons o outs =>
      obtain ⟨l, ls', hl, hm', rfl⟩ := (option_mapM_cons _ _ _ _).1 hm
      exact foldl_width outs (fun o' ho' => hw o' (by simp [ho'])) ls' hm' o.value l
        (hw o (by simp) l hl)

/-- no coding hypothesis is needed -/
theorem trainGroup_width (env : Env) (table : List (String × Expr)) (spec : GroupSpec) (out : GroupOut)
    (h : trainGroup env table spec = .ok out) :
    ∀ ls, out.labels = some ls → HasWidth out.data ls.length := by
  obtain ⟨f, X, el, hf, hX, hel, hdata, _, _, _, hlabels⟩ := trainGroup_parts env table spec out h
  intro ls hls
  rw [hlabels] at hls
  cases hfl : f.labels with
  | none => rw [hfl] at hls; simp at hls
  | some fl =>
    cases el with
    | none => rw [hfl] at hls; simp at hls
    | some els =>
      rw [hfl] at hls
      simp only [Option.bind_eq_bind, Option.bind_some, Option.pure_def, Option.some.injEq] at hls
      subst hls
      have hfw := trainTerm_width env table _ true false f hf fl hfl
      have hXw : HasWidth X els.length := by
        cases hse : spec.expr with
        | none =>
          simp only [effectData, effectLabels, hse, pure_ok, Option.some.injEq] at hX hel
          subst hX; subst hel
          exact hasWidth_onesCol _
        | some ts =>
          simp only [effectData, effectLabels, hse] at hX hel
          cases ht : trainTerm env table ts false false with
          | error e => rw [ht] at hX; simp [Except.map] at hX
          | ok t =>
            rw [ht] at hX hel
            simp only [Except.map, Except.ok.injEq] at hX hel
            subst hX
            exact trainTerm_width env table ts false false t ht els hel
      rw [hdata]
      have := interactionMatrix_width f.data X _ _ hfw hXw
      have hlen := length_labelProd bar fl els
      simp only [labelProd, bar] at hlen
      rw [hlen]
      exact this

end FormulaeModel.Design
