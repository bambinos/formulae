import FormulaeModel.Proofs.PermEval
import FormulaeModel.Proofs.ShapeTerm
import FormulaeModel.Spec.C08
/-
The number of columns of a block of one width — read off its first row by `Matrix.ncols` — does not
depend on which row comes first; hence `stack` of the row-permuted blocks has the same slices and
labels, and the row-permuted matrix.
-/
namespace FormulaeModel.Design
open FormulaeModel.Spec.C06

theorem ncols_selectRows (m : Matrix) (w n : Nat) (sigma : List Nat) (hp : IsPerm sigma n)
    (hl : m.length = n) (hu : HasWidth m w) : (selectRows m sigma).ncols = m.ncols := by
  cases sigma with
  | nil =>
    have : n = 0 := by simpa using hp.length.symm
    subst this
    have : m = [] := List.length_eq_zero_iff.1 hl
    subst this
    rfl
  | cons i is =>
    have hi : i < m.length := hl ▸ hp.lt i (by simp)
    cases m with
    | nil => simp at hi
    | cons r rs =>
      simp only [selectRows, List.map_cons, Matrix.ncols]
      rw [hu r (by simp)]
      apply hu
      simp only [List.getD_eq_getElem?_getD, List.getElem?_eq_getElem hi, Option.getD_some]
      exact List.getElem_mem _


def permBlock (sigma : List Nat) (p : String × Matrix × Option (List String)) :
    String × Matrix × Option (List String) := (p.1, selectRows p.2.1 sigma, p.2.2)

theorem stack_perm (n : Nat) (sigma : List Nat) (hp : IsPerm sigma n)
    (ps : List (String × Matrix × Option (List String)))
    (hl : ∀ p ∈ ps, p.2.1.length = n) (hu : ∀ p ∈ ps, ∃ w, HasWidth p.2.1 w) :
    (stack n (ps.map (permBlock sigma))).matrix = selectRows (stack n ps).matrix sigma ∧
    (stack n (ps.map (permBlock sigma))).slices = (stack n ps).slices ∧
    (stack n (ps.map (permBlock sigma))).labels = (stack n ps).labels := by
  refine ⟨?_, ?_, ?_⟩
  · simp only [stack, List.map_map]
    have hl' : ∀ m ∈ ps.map (·.2.1), m.length = n := by
      intro m hm
      simp only [List.mem_map] at hm
      obtain ⟨p, hp', rfl⟩ := hm
      exact hl p hp'
    rw [selectRows_hstack _ _ sigma hl' hp.lt, List.map_map, hp.length]
    rfl
  · simp only [stack, List.map_map]
    congr 1
    apply List.map_congr_left
    intro p hp'
    obtain ⟨w, hw⟩ := hu p hp'
    simp only [Function.comp, permBlock]
    rw [ncols_selectRows _ w n sigma hp (hl p hp') hw]
  · simp only [stack]
    rw [List.mapM_map]
    rfl

theorem perm_of_nodup_subset_length {α : Type} [DecidableEq α] : ∀ (l sigma : List α), l.Nodup →
    l ⊆ sigma → sigma.length = l.length → sigma.Perm l
  | [], sigma, _, _, hl => by
    have : sigma = [] := List.length_eq_zero_iff.1 (by simpa using hl)
    subst this
    exact List.Perm.nil
  | a :: t, sigma, hn, hs, hl => by
    have ha : a ∈ sigma := hs (by simp)
    have hn' := List.nodup_cons.1 hn
    have hsub : t ⊆ sigma.erase a := fun x hx =>
      (List.mem_erase_of_ne (by rintro rfl; exact hn'.1 hx)).2 (hs (List.mem_cons_of_mem _ hx))
    have hlen : (sigma.erase a).length = t.length := by
      rw [List.length_erase_of_mem ha, hl]; simp
    exact (List.perm_cons_erase ha).trans ((perm_of_nodup_subset_length t _ hn'.2 hsub hlen).cons a)

/-- `Spec.C08.isPermutation` (what the driver checks on the σ sent by the harness) is `IsPerm` -/
theorem isPerm_iff (sigma : List Nat) (n : Nat) :
    Spec.C08.isPermutation sigma n = true ↔ IsPerm sigma n := by
  constructor
  · intro h
    simp only [Spec.C08.isPermutation, Bool.and_eq_true, beq_iff_eq, List.all_eq_true,
      List.contains_iff_mem] at h
    exact perm_of_nodup_subset_length _ _ List.nodup_range (fun x hx => h.2 x hx) (by simp [h.1])
  · intro h
    simp only [Spec.C08.isPermutation, Bool.and_eq_true, beq_iff_eq, List.all_eq_true,
      List.contains_iff_mem]
    exact ⟨h.length, fun x hx => h.mem_iff.2 hx⟩

end FormulaeModel.Design
