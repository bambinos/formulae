import FormulaeModel.Proofs.PermEval
import FormulaeModel.Proofs.RowsComp
/-
One component, for C08: trained on the row-permuted frame.
The levels, the contrast matrix, the transform state, the kind and the labels are the same; the
value is the training value with its rows permuted.
-/
namespace FormulaeModel.Design
open FormulaeModel.Spec.C06

theorem levelsFor_perm {sigma : List Nat} {n : Nat} (hp : IsPerm sigma n) (declared : Option (List Level))
    (xs : List (Option Level)) (hx : xs.length = n) :
    levelsFor declared (pick sigma none xs) = levelsFor declared xs := by
  unfold levelsFor
  rw [sortLevels_perm ((pick_perm hp none xs hx).filterMap id)]

theorem codeWith_perm {sigma : List Nat} {n : Nat} (hp : IsPerm sigma n) (declared : Option (List Level))
    (c : Contrast) (full : Bool) (xs : List (Option Level)) (hx : xs.length = n)
    (levels : List Level) (cm : ContrastMatrix) (m : Matrix)
    (h : codeWith declared c full xs = .ok (levels, cm, m)) :
    codeWith declared c full (pick sigma none xs) = .ok (levels, cm, selectRows m sigma) := by
  rw [codeWith_ok] at h ⊢
  exact ⟨levelsFor_perm hp declared xs hx ▸ h.1, h.2.1, codeRows_pick _ _ _ _ sigma h.2.2 (hx ▸ hp.lt)⟩

theorem evalCategoric_perm {sigma : List Nat} {n : Nat} (hp : IsPerm sigma n) (name : String)
    (xs : List (Option Level)) (hx : xs.length = n) (d : Option (Bool × List String)) (full : Bool)
    (levels : List Level) (cm : ContrastMatrix) (m : Matrix)
    (h : evalCategoric name xs d full = .ok (levels, cm, m)) :
    evalCategoric name (pick sigma none xs) d full = .ok (levels, cm, selectRows m sigma) := by
  obtain ⟨hna, hcw⟩ := evalCategoric_codeWith _ _ _ _ _ h
  rw [evalCategoric_eq, any_perm _ (pick_perm hp none xs hx), hna, if_neg Bool.false_ne_true]
  exact codeWith_perm hp _ _ _ _ hx _ _ _ hcw

theorem evalBox_perm {sigma : List Nat} {n : Nat} (hp : IsPerm sigma n) (b : Box)
    (hx : b.data.length = n) (full : Bool)
    (levels : List Level) (cm : ContrastMatrix) (m : Matrix)
    (h : evalBox b full = .ok (levels, cm, m)) :
    evalBox { b with data := pick sigma none b.data } full = .ok (levels, cm, selectRows m sigma) := by
  rw [evalBox_eq] at h ⊢
  exact codeWith_perm hp _ _ _ _ hx _ _ _ h

theorem selectRows_zipWith_pair (ss ts : List Entry) (is : List Nat) (hs : ∀ i ∈ is, i < ss.length)
    (ht : ∀ i ∈ is, i < ts.length) :
    selectRows (List.zipWith (fun a b => [a, b]) ss ts) is =
      List.zipWith (fun a b => [a, b]) (pick is none ss) (pick is none ts) := by
  induction is with
  | nil => rfl
  | cons i is ih =>
    have hi := hs i (by simp)
    have hi' := ht i (by simp)
    simp only [selectRows, pick, List.map_cons, List.zipWith_cons_cons] at ih ⊢
    rw [ih (fun j hj => hs j (by simp [hj])) (fun j hj => ht j (by simp [hj]))]
    congr 1
    simp [List.getD_eq_getElem?_getD, List.getElem?_zipWith, List.getElem?_eq_getElem hi,
      List.getElem?_eq_getElem hi']

theorem valLeaf_perm {sigma : List Nat} {n : Nat} (hp : IsPerm sigma n) (st : CompState) (name : String)
    (full : Bool) (v : Val) (hv : v.len n) (out : CompOut) (h : valLeaf st name full v = .ok out) :
    valLeaf st name full (v.rows sigma) = .ok ⟨out.st, selectRows out.value sigma, out.labels⟩ ∧
      out.value.length = n := by
  have his := hp.lt
  cases v <;> simp only [valLeaf, reduceCtorEq] at h
  all_goals simp only [Val.len] at hv
  all_goals simp only [valLeaf, Val.rows]
  case vec xs isInt =>
    subst hv
    split at h
    · rename_i hf
      rw [bind_ok] at h
      obtain ⟨ls, hls, h⟩ := h
      obtain ⟨levels, cm, m, hcat, rfl⟩ := catLeaf_ok.1 h
      have hlen := numericLevels_length _ _ hls
      refine ⟨?_, (codeRows_length _ _ _ _ (evalCategoric_coded hcat).rows).trans hlen⟩
      rw [if_pos hf, numericLevels_pick _ _ sigma hls his, ok_bind]
      exact catLeaf_ok.2 ⟨_, _, _, evalCategoric_perm hp name ls hlen none full _ _ _ hcat, rfl⟩
    · rename_i hf
      cases (pure_ok _ _).1 h
      exact ⟨by rw [if_neg hf, selectRows_colOfEntries _ sigma his]; rfl, colOfEntries_length xs⟩
  case lvec xs d =>
    obtain ⟨levels, cm, m, hcat, rfl⟩ := catLeaf_ok.1 h
    exact ⟨catLeaf_ok.2 ⟨_, _, _, evalCategoric_perm hp name xs hv d full _ _ _ hcat, rfl⟩,
      (codeRows_length _ _ _ _ (evalCategoric_coded hcat).rows).trans hv⟩
  case box b =>
    obtain ⟨levels, cm, m, hcat, rfl⟩ := catLeaf_ok.1 h
    exact ⟨catLeaf_ok.2 ⟨_, _, _, evalBox_perm hp b hv full _ _ _ hcat, rfl⟩,
      (codeRows_length _ _ _ _ (evalBox_coded hcat).rows).trans hv⟩

theorem compOfVal_perm {sigma : List Nat} {n : Nat} (hp : IsPerm sigma n) (name : String) (e : Expr)
    (forced isResponse full : Bool) (v : Val) (ts : TS) (hv : v.len n) (out : CompOut)
    (h : compOfVal n name e forced isResponse full v ts = .ok out) :
    compOfVal sigma.length name e forced isResponse full (v.rows sigma) ts =
      .ok ⟨out.st, selectRows out.value sigma, out.labels⟩ ∧ out.value.length = n := by
  have his := hp.lt
  cases v <;> simp only [compOfVal, reduceCtorEq] at h
  case vec | lvec | box => exact valLeaf_perm hp _ name full _ hv out h
  all_goals simp only [Val.len] at hv
  all_goals simp only [compOfVal, Val.rows]
  case offsetVar xs =>
    subst hv
    obtain ⟨h1, h2, rfl⟩ := offsetLeaf_ok.1 h
    exact ⟨offsetLeaf_ok.2 ⟨h1, h2, by rw [selectRows_colOfEntries _ sigma his]⟩, colOfEntries_length xs⟩
  case offsetConst q =>
    obtain ⟨h1, h2, rfl⟩ := offsetLeaf_ok.1 h
    exact ⟨offsetLeaf_ok.2 ⟨h1, h2, by rw [selectRows_eq_pick, pick_replicate sigma _ _ _ his]⟩,
      List.length_replicate⟩
  case prop ss ts' c =>
    split at h
    · cases h
    · cases (pure_ok _ _).1 h
      refine ⟨?_, by simp [hv.1, hv.2]⟩
      simp only [*, Bool.false_eq_true, if_false, selectRows_zipWith_pair _ _ sigma (hv.1 ▸ his) (hv.2 ▸ his)]
      rfl

theorem compOfCol_perm {sigma : List Nat} {n : Nat} (hp : IsPerm sigma n) (name : String) (e : Expr)
    (forced isResponse full : Bool) (reference : Option String) (c : Column) (hc : c.cells.length = n)
    (out : CompOut) (h : compOfCol name e forced isResponse full reference c = .ok out) :
    compOfCol name e forced isResponse full reference (colRows c sigma) =
      .ok ⟨out.st, selectRows out.value sigma, out.labels⟩ ∧ out.value.length = n := by
  have hcv := colVal_rows c sigma
  have gcv := Val.len_iff_sized.2 (colVal_sized c)
  rw [hc] at gcv
  have h0 := h
  simp only [compOfCol] at h
  split at h
  · rename_i xs isInt hv
    rw [hv] at gcv hcv
    simp only [compOfCol, hcv, Val.rows]
    exact valLeaf_perm hp _ name full _ gcv out h
  · rename_i xs d hv
    rw [hv] at gcv hcv
    simp only [Val.rows] at hcv
    simp only [Val.len] at gcv
    split at h
    · -- response with a reference level
      rw [compOfCol_ref _ _ _ _ _ _ _ _ hv] at h0
      rw [compOfCol_ref _ _ _ _ _ _ _ _ hcv, any_perm _ (pick_perm hp none xs gcv),
        levelsFor_perm hp _ xs gcv]
      split at h0
      · cases h0
      · rename_i hna
        simp only [bind_ok, pure_ok] at h0
        obtain ⟨levels, hl, rfl⟩ := h0
        refine ⟨?_, by simp [gcv]⟩
        simp only [if_neg hna, hl, ok_bind, selectRows_eq_pick, pick_map' _ sigma none [] xs (gcv ▸ hp.lt)]
        rfl
    · simp only [compOfCol, hcv]
      exact valLeaf_perm hp _ name full (.lvec xs d) gcv out h
  · cases h

/-- **Training one component on the row-permuted frame**: the remembered state (levels, contrast
matrix, transform parameters, kind, …) and the labels are identical; the value has its rows
permuted.  Every component the model covers: no guard. -/
theorem trainComp_perm (env : Env) (hwf : env.frame.wellFormed = true) (hn : env.namesScalar = true)
    (sigma : List Nat) (hp : IsPerm sigma env.frame.nrows) (name : String) (e : Expr)
    (forced isResponse full : Bool) (out : CompOut)
    (h : trainComp env name e forced isResponse full = .ok out) :
    trainComp (env.rows sigma) name e forced isResponse full =
        .ok ⟨out.st, selectRows out.value sigma, out.labels⟩ ∧
      out.value.length = env.frame.nrows := by
  have hnr : (env.rows sigma).frame.nrows = sigma.length := frame_nrows_rows env.frame sigma hp.lt
  rw [trainComp_ok] at h ⊢
  rcases h with ⟨hc, v, ts, h1, h⟩ | ⟨hc, c, hcol, h⟩
  · obtain ⟨gv, hE⟩ := evalArg_perm env hwf hn sigma hp _ _ _ _ h1
    obtain ⟨h2, h3⟩ := compOfVal_perm hp name e forced isResponse full v ts gv out h
    exact ⟨.inl ⟨hc, _, _, hE, hnr ▸ h2⟩, h3⟩
  · obtain ⟨h2, h3⟩ := compOfCol_perm hp name e forced isResponse full _ c
      (frame_col?_length env.frame hwf _ c hcol) out h
    refine ⟨.inr ⟨hc, colRows c sigma, ?_, h2⟩, h3⟩
    simp only [Env.rows, frame_col?_rows, hcol, Option.map_some]

end FormulaeModel.Design
