import FormulaeModel.Spec.C01
import FormulaeModel.Proofs.KindAll
/-
The documented precedence table (`Spec.C01.documentedTable`) as a function of the token kind, and
which kinds sit at its three lowest levels.
-/
namespace FormulaeModel.Lazy
open FormulaeModel.Spec.C01

def docLevelOf : Kind → Option Nat
  | .PIPE => some 0
  | .EQUAL_EQUAL | .BANG_EQUAL | .LESS_EQUAL | .LESS | .GREATER_EQUAL | .GREATER => some 1
  | .MINUS | .PLUS => some 2
  | .STAR | .SLASH => some 3
  | .COLON => some 4
  | .STAR_STAR => some 5
  | _ => none

theorem opLevel_doc (k : Kind) : opLevel documentedTable k = docLevelOf k := by
  revert k
  exact Kind.forall_of_all (by decide +kernel)

theorem kind_of_docLevel (k : Kind) :
    (docLevelOf k = some 0 → k = .PIPE) ∧
    (docLevelOf k = some 1 →
      k ∈ [Kind.EQUAL_EQUAL, .BANG_EQUAL, .LESS_EQUAL, .LESS, .GREATER_EQUAL, .GREATER]) ∧
    (docLevelOf k = some 2 → (k == .PLUS || k == .MINUS) = true) := by
  revert k
  exact Kind.forall_of_all (by decide)

end FormulaeModel.Lazy
