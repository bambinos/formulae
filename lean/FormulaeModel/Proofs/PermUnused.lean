import FormulaeModel.Proofs.RowsDesign
import FormulaeModel.Model.Pipeline
/-
Evaluation reads only the columns it names: two frames that agree (`Frame.col?`) on the names an
expression / component mentions give equal results (errors included) and equal trained terms.
-/
namespace FormulaeModel.Design

theorem lookupName_agree (f1 f2 : Frame) (names : List (String × Val)) (n : String)
    (h : f1.col? n = f2.col? n) : lookupName ⟨f1, names⟩ n = lookupName ⟨f2, names⟩ n := by
  unfold lookupName
  simp only [h]

theorem argVars_split (e : Expr) (n : String) (h : n ∈ NA.argVars e) :
    n ∈ (match e with | .assign .. => [] | _ => NA.argVars e) ∨
    n ∈ (match e with | .assign _ _ v => NA.argVars v | _ => []) := by
  cases e <;> simp_all [NA.argVars]

theorem mem_argsVars_last (e : Expr) (n : String) (h : n ∈ NA.argVars e) :
    n ∈ NA.argsVarsPos (.last e) ++ NA.argsVarsKw (.last e) := by
  cases e <;> first | exact List.mem_append_left _ h | exact List.mem_append_right _ h

theorem mem_argsVars_head (e : Expr) (c : Token) (rest : Args) (n : String) (h : n ∈ NA.argVars e) :
    n ∈ NA.argsVarsPos (.more e c rest) ++ NA.argsVarsKw (.more e c rest) := by
  cases e <;> first
    | exact List.mem_append_left _ (List.mem_append_left _ h)
    | exact List.mem_append_right _ (List.mem_append_left _ h)

theorem mem_argsVars_tail (e : Expr) (c : Token) (rest : Args) (n : String)
    (h : n ∈ NA.argsVarsPos rest ++ NA.argsVarsKw rest) :
    n ∈ NA.argsVarsPos (.more e c rest) ++ NA.argsVarsKw (.more e c rest) := by
  rcases List.mem_append.1 h with h | h <;> cases e <;> first
    | exact List.mem_append_left _ (List.mem_append_right _ h)
    | exact List.mem_append_right _ (List.mem_append_right _ h)

section
variable (f1 f2 : Frame) (names : List (String × Val))

mutual
theorem evalArg_agree : ∀ (e : Expr) (ts : Option TS),
    (∀ n ∈ NA.argVars e, f1.col? n = f2.col? n) →
    evalArg ⟨f1, names⟩ e ts = evalArg ⟨f2, names⟩ e ts
  | .grouping _ e _, ts, h => by
    simp only [evalArg]
    rw [evalArg_agree e ts (by simpa [NA.argVars] using h)]
  | .variable n, ts, h => by
    simp only [evalArg]
    rw [lookupName_agree f1 f2 names _ (h _ (by simp [NA.argVars]))]
  | .subset n _ _ _, ts, h => by
    simp only [evalArg]
    rw [lookupName_agree f1 f2 names _ (h _ (by simp [NA.argVars]))]
  | .quoted t, ts, h => by
    simp only [evalArg]
    rw [lookupName_agree f1 f2 names _ (h _ (by simp [NA.argVars, NA.unquote]))]
  | .literal t, ts, h => by
    simp only [evalArg]
  | .unary op r, ts, h => by
    simp only [evalArg]
    rw [evalArg_agree r _ (by simpa [NA.argVars] using h)]
  | .binary l op r, ts, h => by
    simp only [evalArg]
    rw [evalArg_agree l _ (fun n hn => h n (by simp [NA.argVars, hn])),
      evalArg_agree r _ (fun n hn => h n (by simp [NA.argVars, hn]))]
  | .call c _ as _, ts, h => by
    cases c
    case «variable» n =>
      simp only [evalArg]
      rw [evalArgs_agree as ts 0 ⟨[], []⟩ (by simpa [NA.argVars] using h)]
    all_goals simp [evalArg]
  | .brace _ e _, ts, h => by
    simp only [evalArg]
    rw [evalArg_agree e _ (by simpa [NA.argVars] using h)]
  | .assign n _ v, ts, h => by
    simp only [evalArg]
    rw [evalArg_agree v ts (by simpa [NA.argVars] using h)]
theorem evalArgs_agree : ∀ (as : Args) (ts : Option TS) (i : Nat) (acc : CallArgs),
    (∀ n ∈ NA.argsVarsPos as ++ NA.argsVarsKw as, f1.col? n = f2.col? n) →
    evalArgs ⟨f1, names⟩ as ts i acc = evalArgs ⟨f2, names⟩ as ts i acc
  | .nil, ts, i, acc, h => by simp only [evalArgs]
  | .last e, ts, i, acc, h => by
    simp only [evalArgs]
    rw [evalArg_agree e _ (fun n hn => h n (mem_argsVars_last e n hn))]
  | .more e _ rest, ts, i, acc, h => by
    have he : evalArg ⟨f1, names⟩ e (TS.child ts i) = evalArg ⟨f2, names⟩ e (TS.child ts i) :=
      evalArg_agree e _ (fun n hn => h n (mem_argsVars_head e _ rest n hn))
    have hr : ∀ acc', evalArgs ⟨f1, names⟩ rest ts (i + 1) acc' = evalArgs ⟨f2, names⟩ rest ts (i + 1) acc' :=
      fun acc' => evalArgs_agree rest ts (i + 1) acc' (fun n hn => h n (mem_argsVars_tail e _ rest n hn))
    simp only [evalArgs, he, hr]
end

/-- the column names `trainComp` reads for the component `name` with expression `e` -/
def compNames (name : String) (e : Expr) : List String :=
  if isCallLike e then NA.argVars e else [(varColRef name e).1]

/-- what the resolver makes a component of (for these `compNames` is `var_names` of the component) -/
def isAtomShape : Expr → Bool
  | .call .. | .brace .. | .variable .. | .subset .. | .quoted .. => true
  | _ => false

theorem compNames_atom (name : String) (e : Expr) (h : isAtomShape e = true) :
    compNames name e = NA.atomVars e := by
  cases e <;> first | rfl | cases h

theorem trainComp_agree (name : String) (e : Expr) (forced isResponse full : Bool)
    (hrows : f1.nrows = f2.nrows) (h : ∀ n ∈ compNames name e, f1.col? n = f2.col? n) :
    trainComp ⟨f1, names⟩ name e forced isResponse full =
      trainComp ⟨f2, names⟩ name e forced isResponse full := by
  cases hc : isCallLike e with
  | true =>
    simp only [compNames, hc, if_true] at h
    rw [trainComp_call _ _ _ _ _ _ hc, trainComp_call _ _ _ _ _ _ hc, evalArg_agree f1 f2 names e none h]
    simp only [hrows]
  | false =>
    simp only [compNames, hc, Bool.false_eq_true, if_false, List.mem_singleton, forall_eq] at h
    rw [trainComp_var _ _ _ _ _ _ hc, trainComp_var _ _ _ _ _ _ hc]
    simp only [h]

def tableNames (table : List (String × Expr)) : List String := table.flatMap (fun p => compNames p.1 p.2)

theorem compExpr_mem (table : List (String × Expr)) (name : String) (e : Expr)
    (h : compExpr table name = .ok e) : (name, e) ∈ table := by
  unfold compExpr at h
  split at h
  · rename_i p hp
    simp only [pure_ok] at h
    subst h
    have h1 := List.mem_of_find?_eq_some hp
    have h2 := List.find?_some hp
    have : p.1 = name := by simpa using h2
    rw [← this]
    exact h1
  · simp at h

theorem trainTerm_agree (table : List (String × Expr)) (spec : TermSpec) (forced isResponse : Bool)
    (hrows : f1.nrows = f2.nrows) (h : ∀ n ∈ tableNames table, f1.col? n = f2.col? n) :
    trainTerm ⟨f1, names⟩ table spec forced isResponse =
      trainTerm ⟨f2, names⟩ table spec forced isResponse := by
  unfold trainTerm
  rw [mapM_congr_mem _ (fun (c : String × Bool) => do
    trainComp ⟨f2, names⟩ c.1 (← compExpr table c.1) forced isResponse c.2)]
  intro c _
  cases he : compExpr table c.1 with
  | error er => rfl
  | ok e =>
    simp only [ok_bind]
    apply trainComp_agree f1 f2 names c.1 e forced isResponse c.2 hrows
    intro n hn
    apply h
    simp only [tableNames, List.mem_flatMap]
    exact ⟨(c.1, e), compExpr_mem table c.1 e he, hn⟩

theorem trainGroup_agree (table : List (String × Expr)) (spec : GroupSpec)
    (hrows : f1.nrows = f2.nrows) (h : ∀ n ∈ tableNames table, f1.col? n = f2.col? n) :
    trainGroup ⟨f1, names⟩ table spec = trainGroup ⟨f2, names⟩ table spec := by
  unfold trainGroup
  simp only [trainTerm_agree f1 f2 names table _ _ _ hrows h, hrows]

theorem trainCommon_agree (table : List (String × Expr)) (specs : List (Option TermSpec))
    (hrows : f1.nrows = f2.nrows) (h : ∀ n ∈ tableNames table, f1.col? n = f2.col? n) :
    trainCommon ⟨f1, names⟩ table specs = trainCommon ⟨f2, names⟩ table specs := by
  unfold trainCommon
  simp only [trainTerm_agree f1 f2 names table _ _ _ hrows h]

theorem trainGroups_agree (table : List (String × Expr)) (specs : List GroupSpec)
    (hrows : f1.nrows = f2.nrows) (h : ∀ n ∈ tableNames table, f1.col? n = f2.col? n) :
    trainGroups ⟨f1, names⟩ table specs = trainGroups ⟨f2, names⟩ table specs := by
  unfold trainGroups
  rw [mapM_congr_mem _ (trainGroup ⟨f2, names⟩ table)]
  intro s _
  exact trainGroup_agree f1 f2 names table s hrows h

end

def tableAtoms (table : List (String × Expr)) : Bool := table.all (fun p => isAtomShape p.2)

theorem atomTable_names_leaf (e : Expr)
    (ht : Pipeline.atomTable e =
      match Resolver.noKw (Resolver.lazyArg e) with
      | .ok (nm, _) => [(nm, e)]
      | .error _ => [])
    (hv : NA.formulaVars e = NA.atomVars e) (p : String × Expr) (hp : p ∈ Pipeline.atomTable e)
    (hs : isAtomShape p.2 = true) (n : String) (hn : n ∈ compNames p.1 p.2) : n ∈ NA.formulaVars e := by
  rw [ht] at hp
  split at hp
  · rw [compNames_atom _ _ hs, List.mem_singleton.1 hp] at hn
    rwa [hv]
  · cases hp

theorem atomTable_names : ∀ (f : Expr) (p : String × Expr), p ∈ Pipeline.atomTable f →
    isAtomShape p.2 = true → ∀ n ∈ compNames p.1 p.2, n ∈ NA.formulaVars f
  | .grouping _ e _, p, hp, hs, n, hn => atomTable_names e p hp hs n hn
  | .unary _ r, p, hp, hs, n, hn => atomTable_names r p hp hs n hn
  | .binary l _ r, p, hp, hs, n, hn =>
    List.mem_append.2 ((List.mem_append.1 hp).imp (atomTable_names l p · hs n hn)
      (atomTable_names r p · hs n hn))
  | .call .., p, hp, hs, n, hn => atomTable_names_leaf _ rfl rfl p hp hs n hn
  | .brace .., p, hp, hs, n, hn => atomTable_names_leaf _ rfl rfl p hp hs n hn
  | .variable _, p, hp, hs, n, hn => atomTable_names_leaf _ rfl rfl p hp hs n hn
  | .subset .., p, hp, hs, n, hn => atomTable_names_leaf _ rfl rfl p hp hs n hn
  | .quoted _, p, hp, hs, n, hn => atomTable_names_leaf _ rfl rfl p hp hs n hn
  | .literal _, p, hp, hs, n, hn => atomTable_names_leaf _ rfl rfl p hp hs n hn
  | .assign .., p, hp, hs, n, hn => atomTable_names_leaf _ rfl rfl p hp hs n hn

/-- a bare literal at a term position is filtered out: it has no `var_names`, yet `trainComp` would
look up a column named like the component -/
theorem tableNames_formulaVars (f : Expr) (n : String)
    (h : n ∈ tableNames ((Pipeline.atomTable f).filter (fun p => isAtomShape p.2))) :
    n ∈ NA.formulaVars f := by
  simp only [tableNames, List.mem_flatMap, List.mem_filter] at h
  obtain ⟨p, ⟨hp, hs⟩, hn⟩ := h
  exact atomTable_names f p hp hs n hn

end FormulaeModel.Design
