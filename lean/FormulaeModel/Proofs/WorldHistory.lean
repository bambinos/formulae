import FormulaeModel.Proofs.World
import FormulaeModel.Spec.C07
/-
C07 over histories: what one `step` does to the world, the closed form of `run`, and history
independence.
-/
namespace FormulaeModel.World
open FormulaeModel.Design FormulaeModel.Spec.C07

theorem set_getElem?_self {α} (l : List α) (i : Nat) (d : α) (h : l[i]? = some d) : l.set i d = l := by
  obtain ⟨hlt, rfl⟩ := List.getElem?_eq_some_iff.1 h
  exact List.set_getElem_self hlt

theorem wf_getElem? (w : World) (hw : w.wf = true) (i : Nat) (d : DesignState)
    (h : w.designs[i]? = some d) : d.wf = true := by
  unfold World.wf at hw
  rw [List.all_eq_true] at hw
  exact hw d (List.mem_of_getElem? h)

theorem writeback_world (w : World) (i : Nat) (d : DesignState) (hd : w.designs[i]? = some d)
    (r : M (Out × DesignState)) (hr : Post r (fun p => p.2 = d)) :
    (match r with
      | .ok (o, d') => (({ w with designs := w.designs.set i d' } : World), o)
      | .error e => (w, .raised (errClass e))).1 = w := by
  cases r with
  | error e => rfl
  | ok p =>
    cases hr p rfl
    simp [set_getElem?_self _ _ _ hd]

theorem step_build (w : World) (spec : BuildSpec) (frame : Frame) :
    (step w (.build spec frame)).1 = ⟨w.designs ++ (Op.build spec frame).created, w.config⟩ := by
  simp only [step, Op.created]
  cases buildDesign spec frame with
  | error e => simp
  | ok r => rfl

theorem step_setConfig (w : World) (key value : String) :
    (step w (.setConfig key value)).1 = ⟨w.designs, (Op.setConfig key value).configured w.config⟩ := by
  simp only [step, Op.configured]
  split
  · rfl
  · split <;> rfl

/-- well-formedness is needed by the two evaluations only -/
theorem step_world (w : World) (hw : w.wf = true) (o : Op) :
    (step w o).1 = ⟨w.designs ++ o.created, o.configured w.config⟩ := by
  cases o with
  | build spec frame => exact step_build w spec frame
  | evalCommon i frame =>
    simp only [step, Op.created, Op.configured, List.append_nil]
    cases hd : w.designs[i]? with
    | none => rfl
    | some d =>
      exact writeback_world w i d hd _ (evalCommonS_pure d frame w.config (wf_getElem? w hw i d hd))
  | evalGroup i frame =>
    simp only [step, Op.created, Op.configured, List.append_nil]
    cases hd : w.designs[i]? with
    | none => rfl
    | some d =>
      exact writeback_world w i d hd _ (evalGroupS_pure d frame w.config (wf_getElem? w hw i d hd))
  | setConfig key value => exact (step_setConfig w key value).trans (by simp [Op.created])

theorem created_wf (o : Op) : ∀ d ∈ o.created, d.wf = true := by
  cases o with
  | build spec frame =>
    simp only [Op.created]
    cases hb : buildDesign spec frame with
    | error e => simp
    | ok r =>
      obtain ⟨d, b⟩ := r
      simp only [List.mem_singleton, forall_eq]
      exact buildDesign_wf spec frame _ hb
  | _ => simp [Op.created]

theorem step_wf (w : World) (hw : w.wf = true) (o : Op) : (step w o).1.wf = true := by
  rw [step_world w hw o]
  unfold World.wf at hw ⊢
  simp only [List.all_append, Bool.and_eq_true, hw, true_and]
  rw [List.all_eq_true]
  exact created_wf o

theorem run_wf (w : World) (hw : w.wf = true) : ∀ (h : List Op), (run w h).wf = true
  | [] => hw
  | o :: h => run_wf (step w o).1 (step_wf w hw o) h

def created (h : List Op) : List DesignState := h.flatMap Op.created
def configAfter (c : UnseenMode) : List Op → UnseenMode
  | [] => c
  | o :: h => configAfter (o.configured c) h

theorem run_append (w : World) (a b : List Op) : run w (a ++ b) = run (run w a) b := by
  induction a generalizing w with
  | nil => rfl
  | cons x a ih => simp [run, ih]

theorem run_world (w : World) (hw : w.wf = true) : ∀ (h : List Op),
    run w h = ⟨w.designs ++ created h, configAfter w.config h⟩
  | [] => by simp [run, created, configAfter]
  | o :: h => by
    simp only [run]
    rw [run_world (step w o).1 (step_wf w hw o) h, step_world w hw o]
    simp [created, configAfter, List.append_assoc]

/-- the output of an operation reads the design it refers to and the configuration, nothing else -/
def outOf (d : Option DesignState) (c : UnseenMode) : Op → Out
  | .build spec frame =>
    match buildDesign spec frame with
    | .ok (_, b) => .built b
    | .error e => .raised (errClass e)
  | .evalCommon _ frame =>
    match d with
    | none => .noDesign
    | some d => match evalCommonS d frame c with
      | .ok (o, _) => o
      | .error e => .raised (errClass e)
  | .evalGroup _ frame =>
    match d with
    | none => .noDesign
    | some d => match evalGroupS d frame c with
      | .ok (o, _) => o
      | .error e => .raised (errClass e)
  | .setConfig key value =>
    if key != configKey then .raised "KeyError"
    else match modeOfString? value with
      | some _ => .configSet
      | none => .raised "ValueError"

/-- 0 where `outOf` ignores the design -/
def opIndex : Op → Nat
  | .evalCommon i _ => i
  | .evalGroup i _ => i
  | _ => 0

theorem step_out (w : World) (o : Op) : (step w o).2 = outOf w.designs[(opIndex o)]? w.config o := by
  cases o with
  | build spec frame =>
    simp only [step, outOf]
    cases buildDesign spec frame with
    | error e => rfl
    | ok r => rfl
  | evalCommon i frame | evalGroup i frame =>
    simp only [step, outOf, opIndex]
    cases w.designs[i]? with
    | none => rfl
    | some d => dsimp only; split <;> simp only [*]
  | setConfig key value =>
    simp only [step, outOf]
    split
    · rfl
    · cases modeOfString? value <;> rfl

theorem outOf_reindex (d : Option DesignState) (c : UnseenMode) (o : Op) :
    outOf d c (reindex o) = outOf d c o := by
  cases o <;> rfl

theorem creates_iff (o : Op) : o.creates = true ↔ ∃ d, o.created = [d] := by
  cases o with
  | build spec frame =>
    simp only [Op.creates, Op.created]
    cases buildDesign spec frame with
    | error e => simp
    | ok r => simp
  | _ => simp [Op.creates, Op.created]

theorem not_creates (o : Op) (h : o.creates = false) : o.created = [] := by
  simpa [Op.creates] using h

theorem created_creator : ∀ (h : List Op) (i : Nat), created (creator h i) = ((created h)[i]?).toList
  | [], i => by simp [creator, created]
  | o :: h, i => by
    have ih := created_creator h
    simp only [creator]
    by_cases hc : o.creates = true
    · obtain ⟨d, hd⟩ := (creates_iff o).1 hc
      simp only [hc, if_true]
      cases i with
      | zero => simp [created, hd]
      | succ j => simp [created, hd] ; simpa [created] using ih j
    · have hc' : o.creates = false := by simpa using hc
      have := not_creates o hc'
      simp [hc', created, this]; simpa [created] using ih i

theorem configAfter_creator (c : UnseenMode) : ∀ (h : List Op) (i : Nat), configAfter c (creator h i) = c
  | [], i => by simp [creator, configAfter]
  | o :: h, i => by
    simp only [creator]
    by_cases hc : o.creates = true
    · simp only [hc, if_true]
      cases i with
      | zero =>
        simp only [configAfter]
        cases o <;> simp_all [Op.configured, Op.creates, Op.created]
      | succ j => exact configAfter_creator c h j
    · have hc' : o.creates = false := by simpa using hc
      simp only [hc']
      exact configAfter_creator c h i

theorem configures_const (o : Op) (h : o.configures = true) (c c' : UnseenMode) :
    o.configured c = o.configured c' := by
  cases o with
  | setConfig key value =>
    simp only [Op.configures, Bool.and_eq_true, beq_iff_eq] at h
    simp only [Op.configured, h.1, bne_self_eq_false, Bool.false_eq_true, if_false]
    cases hv : modeOfString? value with
    | none => simp [hv] at h
    | some m => rfl
  | _ => simp [Op.configures] at h

theorem not_configures (o : Op) (h : o.configures = false) (c : UnseenMode) : o.configured c = c := by
  cases o with
  | setConfig key value =>
    simp only [Op.configured]
    by_cases hk : key = configKey
    · simp only [hk, bne_self_eq_false, Bool.false_eq_true, if_false]
      cases hv : modeOfString? value with
      | none => rfl
      | some m => simp [Op.configures, hk, hv] at h
    · simp [hk]
  | _ => rfl

theorem configures_created (o : Op) (h : o.configures = true) : o.created = [] := by
  cases o <;> simp_all [Op.configures, Op.created]

theorem lastConfig_shape : ∀ (h : List Op), lastConfig h = [] ∨ ∃ o, lastConfig h = [o] ∧ o.configures = true
  | [] => Or.inl rfl
  | o :: h => by
    rcases lastConfig_shape h with hl | ⟨o', hl, ho'⟩
    · simp only [lastConfig, hl]
      by_cases hc : o.configures = true
      · exact Or.inr ⟨o, by simp [hc], hc⟩
      · exact Or.inl (by simp [hc])
    · exact Or.inr ⟨o', by simp [lastConfig, hl], ho'⟩

theorem created_lastConfig (h : List Op) : created (lastConfig h) = [] := by
  rcases lastConfig_shape h with hl | ⟨o, hl, ho⟩
  · simp [hl, created]
  · simp [hl, created, configures_created o ho]

theorem configAfter_lastConfig : ∀ (h : List Op) (c : UnseenMode),
    configAfter c (lastConfig h) = configAfter c h
  | [], c => rfl
  | o :: h, c => by
    have ih := configAfter_lastConfig h
    rcases lastConfig_shape h with hl | ⟨o', hl, ho'⟩
    · simp only [lastConfig, hl, configAfter]
      rw [← ih (o.configured c), hl]
      by_cases hc : o.configures = true
      · simp [hc, configAfter]
      · have hc' : o.configures = false := by simpa using hc
        simp [hc', configAfter, not_configures o hc' c]
    · simp only [lastConfig, hl, configAfter]
      rw [← ih (o.configured c), hl]
      simp only [configAfter]
      exact configures_const o' ho' _ _

theorem configAfter_append (c : UnseenMode) : ∀ (a b : List Op),
    configAfter c (a ++ b) = configAfter (configAfter c a) b
  | [], b => rfl
  | o :: a, b => by simp [configAfter, configAfter_append _ a b]

theorem created_append (a b : List Op) : created (a ++ b) = created a ++ created b := by
  simp [created]

theorem run_init (h : List Op) : run World.init h = ⟨created h, configAfter .error h⟩ := by
  have := run_world World.init (by rfl) h
  simpa [World.init] using this

theorem toList_getElem?_zero {α} (x : Option α) : (x.toList)[0]? = x := by
  cases x <;> rfl

theorem history_independence (h : List Op) (o : Op) :
    (step (run World.init h) o).2 = freshOutput h o := by
  unfold freshOutput
  rw [step_out, step_out, run_init, run_init, outOf_reindex]
  cases o with
  | build spec frame => rfl
  | setConfig key value => rfl
  | evalCommon i frame | evalGroup i frame =>
    simp only [relevant, reindex, opIndex, created_append, created_lastConfig, created_creator,
      List.nil_append, toList_getElem?_zero, configAfter_append, configAfter_lastConfig,
      configAfter_creator]

end FormulaeModel.World
