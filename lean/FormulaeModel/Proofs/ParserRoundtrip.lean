import FormulaeModel.Proofs.ParserStrat
/-
Helper lemmas for C01_roundtrip / C01_fullparen.
Fuel: a result other than `.error .fuel` does not change with more fuel (`MonoAt`), and with
`fuelFor` no parser function answers `.error .fuel` (`NoFuelAt`).
Completeness: for every tree `e` the bundle `RT e`: each parser function, run on the yield of `e`
followed by a `rest` that starts in the follow set of that position, returns `(e, rest)` for some
fuel; `RT.loop` and `RT.callLoop` resume a loop with accumulator `e`.
`groupAll` preserves derivations, and `ungroup ∘ groupAll = ungroup`.
-/
namespace FormulaeModel.Parser
open FormulaeModel.Spec.C01

variable (T : Table)

structure MonoAt (n : Nat) : Prop where
  expression : ∀ ts, expression T n ts ≠ .error .fuel → expression T (n + 1) ts = expression T n ts
  assignment : ∀ ts, assignment T n ts ≠ .error .fuel → assignment T (n + 1) ts = assignment T n ts
  tilde : ∀ ts, tilde T n ts ≠ .error .fuel → tilde T (n + 1) ts = tilde T n ts
  binLevel : ∀ lv ts, binLevel T n lv ts ≠ .error .fuel → binLevel T (n + 1) lv ts = binLevel T n lv ts
  binLoop : ∀ ops lv acc ts, binLoop T n ops lv acc ts ≠ .error .fuel →
    binLoop T (n + 1) ops lv acc ts = binLoop T n ops lv acc ts
  unary : ∀ ts, unary T n ts ≠ .error .fuel → unary T (n + 1) ts = unary T n ts
  call : ∀ ts, call T n ts ≠ .error .fuel → call T (n + 1) ts = call T n ts
  callLoop : ∀ acc ts, callLoop T n acc ts ≠ .error .fuel → callLoop T (n + 1) acc ts = callLoop T n acc ts
  argList : ∀ ts, argList T n ts ≠ .error .fuel → argList T (n + 1) ts = argList T n ts
  primary : ∀ ts, primary T n ts ≠ .error .fuel → primary T (n + 1) ts = primary T n ts

theorem bind_mono {α β : Type} {x x' : Except ParseErr α} {f f' : α → Except ParseErr β}
    (hx : x ≠ .error .fuel → x' = x) (hf : ∀ a, f a ≠ .error .fuel → f' a = f a)
    (h : (x >>= f) ≠ .error .fuel) : (x' >>= f') = (x >>= f) := by
  cases x with
  | error e => rw [hx (by intro hc; cases hc; exact h rfl)]; rfl
  | ok a => rw [hx nofun]; exact hf a h

theorem monoAt_succ (n : Nat) (ih : MonoAt T n) : MonoAt T (n + 1) where
  expression ts := by
    rw [expression, expression]; exact ih.assignment ts
  assignment ts := by
    rw [assignment, assignment]
    refine bind_mono (ih.tilde ts) fun ⟨e, ts1⟩ => ?_
    rcases ts1 with _ | ⟨t, ts2⟩
    · exact fun _ => rfl
    · dsimp only; split
      · exact bind_mono (ih.binLevel _ _) fun _ _ => rfl
      · exact fun _ => rfl
  tilde ts := by
    rw [tilde, tilde]
    refine bind_mono (ih.binLevel _ ts) fun ⟨e, ts1⟩ => ?_
    rcases ts1 with _ | ⟨t, ts2⟩
    · exact fun _ => rfl
    · dsimp only; split
      · exact bind_mono (ih.binLevel _ _) fun _ _ => rfl
      · exact fun _ => rfl
  binLevel lv ts := by
    cases lv with
    | nil => rw [binLevel, binLevel]; exact ih.unary ts
    | cons ops rest =>
      rw [binLevel, binLevel]
      exact bind_mono (ih.binLevel _ ts) fun _ => ih.binLoop _ _ _ _
  binLoop ops lv acc ts := by
    rcases ts with _ | ⟨t, ts1⟩ <;> rw [binLoop, binLoop]
    · exact fun _ => rfl
    · split
      · exact bind_mono (ih.binLevel _ _) fun _ => ih.binLoop _ _ _ _
      · exact fun _ => rfl
  unary ts := by
    rcases ts with _ | ⟨t, ts1⟩ <;> rw [unary, unary]
    · exact ih.call _
    · split
      · exact bind_mono (ih.unary _) fun _ _ => rfl
      · exact ih.call _
  call ts := by
    rw [call, call]
    exact bind_mono (ih.primary ts) fun _ => ih.callLoop _ _
  callLoop acc ts := by
    have args : ∀ t ts1,
        (argList T n ts1 >>= fun x => consume .RIGHT_PAREN x.2 >>= fun y =>
          callLoop T n (.call acc t x.1 y.1) y.2) ≠ .error .fuel →
        (argList T (n + 1) ts1 >>= fun x => consume .RIGHT_PAREN x.2 >>= fun y =>
          callLoop T (n + 1) (.call acc t x.1 y.1) y.2) =
        (argList T n ts1 >>= fun x => consume .RIGHT_PAREN x.2 >>= fun y =>
          callLoop T n (.call acc t x.1 y.1) y.2) := fun t ts1 =>
      bind_mono (ih.argList _) fun _ => bind_mono (fun _ => rfl) fun _ => ih.callLoop _ _
    rcases ts with _ | ⟨t, _ | ⟨u, ts2⟩⟩ <;> rw [callLoop, callLoop]
    · exact fun _ => rfl
    · split
      · exact args t []
      · exact fun _ => rfl
    · split
      · split
        · exact ih.callLoop _ _
        · exact args t (u :: ts2)
      · exact fun _ => rfl
  argList ts := by
    rw [argList, argList]
    refine bind_mono (ih.expression ts) fun ⟨e, ts1⟩ => ?_
    rcases ts1 with _ | ⟨t, ts2⟩
    · exact fun _ => rfl
    · dsimp only; split
      · exact bind_mono (ih.argList _) fun _ _ => rfl
      · exact fun _ => rfl
  primary ts := by
    rcases ts with _ | ⟨t, ts1⟩
    · exact fun _ => rfl
    rw [primary.eq_def, primary.eq_def]; dsimp only
    split
    · rcases ts1 with _ | ⟨lb, ts2⟩
      · exact fun _ => rfl
      · dsimp only; split
        · exact bind_mono (ih.primary _) fun _ _ => rfl
        · exact fun _ => rfl
    iterate 4 exact fun _ => rfl
    iterate 2 exact bind_mono (ih.expression _) fun _ _ => rfl
    exact fun _ => rfl

theorem monoAt (n : Nat) : MonoAt T n := by
  induction n with
  | zero => constructor <;> intros <;> contradiction
  | succ n ih => exact monoAt_succ T n ih

theorem mono_of_step {β : Type} (f : Nat → Except ParseErr β)
    (hs : ∀ n, f n ≠ .error .fuel → f (n + 1) = f n) {n n' : Nat} (h : n ≤ n')
    (hne : f n ≠ .error .fuel) : f n' = f n := by
  induction h with
  | refl => rfl
  | step _ ih => rw [hs _ (by rwa [ih]), ih]

theorem ok_of_step {β : Type} (f : Nat → Except ParseErr β)
    (hs : ∀ n, f n ≠ .error .fuel → f (n + 1) = f n) {n n' : Nat} (h : n ≤ n') {r : β}
    (hr : f n = .ok r) : f n' = .ok r := by
  rw [mono_of_step f hs h (by rw [hr]; nofun), hr]

theorem expression_mono {n n' : Nat} (h : n ≤ n') {ts : List Token} {r}
    (hr : expression T n ts = .ok r) : expression T n' ts = .ok r :=
  ok_of_step (expression T · ts) (fun n => (monoAt T n).expression ts) h hr

theorem binLevel_mono {n n' : Nat} (h : n ≤ n') {lv} {ts : List Token} {r}
    (hr : binLevel T n lv ts = .ok r) : binLevel T n' lv ts = .ok r :=
  ok_of_step (binLevel T · lv ts) (fun n => (monoAt T n).binLevel lv ts) h hr

theorem binLoop_mono {n n' : Nat} (h : n ≤ n') {ops lv acc} {ts : List Token} {r}
    (hr : binLoop T n ops lv acc ts = .ok r) : binLoop T n' ops lv acc ts = .ok r :=
  ok_of_step (binLoop T · ops lv acc ts) (fun n => (monoAt T n).binLoop ops lv acc ts) h hr

theorem unary_mono {n n' : Nat} (h : n ≤ n') {ts : List Token} {r}
    (hr : unary T n ts = .ok r) : unary T n' ts = .ok r :=
  ok_of_step (unary T · ts) (fun n => (monoAt T n).unary ts) h hr

theorem call_mono {n n' : Nat} (h : n ≤ n') {ts : List Token} {r}
    (hr : call T n ts = .ok r) : call T n' ts = .ok r :=
  ok_of_step (call T · ts) (fun n => (monoAt T n).call ts) h hr

theorem callLoop_mono {n n' : Nat} (h : n ≤ n') {acc} {ts : List Token} {r}
    (hr : callLoop T n acc ts = .ok r) : callLoop T n' acc ts = .ok r :=
  ok_of_step (callLoop T · acc ts) (fun n => (monoAt T n).callLoop acc ts) h hr

theorem argList_mono {n n' : Nat} (h : n ≤ n') {ts : List Token} {r}
    (hr : argList T n ts = .ok r) : argList T n' ts = .ok r :=
  ok_of_step (argList T · ts) (fun n => (monoAt T n).argList ts) h hr

theorem primary_mono {n n' : Nat} (h : n ≤ n') {ts : List Token} {r}
    (hr : primary T n ts = .ok r) : primary T n' ts = .ok r :=
  ok_of_step (primary T · ts) (fun n => (monoAt T n).primary ts) h hr

theorem parseFuel_mono {n n' : Nat} (h : n ≤ n') (ts : List Token)
    (hne : parseFuel T n ts ≠ .error .fuel) : parseFuel T n' ts = parseFuel T n ts := by
  have hx : expression T n ts ≠ .error .fuel := by
    intro hc; apply hne; simp [parseFuel, hc, bind, Except.bind]
  have this : expression T n' ts = expression T n ts :=
    mono_of_step (expression T · ts) (fun n => (monoAt T n).expression ts) h hx
  simp only [parseFuel, this]

/-! ### `fuelFor` is enough -/

/-- Fuel per token; the steps of `NoFuelAt` need `8 + T.levels.length ≤ fc T` (re-entering
`argList` after the `(` of a call). -/
abbrev fc : Nat := T.levels.length + 12

theorem bind_nofuel {α β : Type} {x : Except ParseErr α} {f : α → Except ParseErr β}
    (hx : x ≠ .error .fuel) (hf : ∀ a, x = .ok a → f a ≠ .error .fuel) :
    (x >>= f) ≠ .error .fuel := by
  cases x with
  | error e => intro hc; apply hx; cases hc; rfl
  | ok a => exact hf a rfl

theorem consume_ne_fuel (k : Kind) (ts : List Token) : consume k ts ≠ .error .fuel := by
  unfold consume
  split
  · split <;> nofun
  · nofun

theorem fuel_rest {pre r ts : List Token} (h : pre ++ r = ts) :
    fc T * r.length ≤ fc T * ts.length :=
  Nat.mul_le_mul_left _ (by rw [← h, List.length_append]; omega)

theorem fuel_cons (t : Token) (ts : List Token) :
    fc T * ts.length + fc T = fc T * (t :: ts).length := by
  rw [List.length_cons, Nat.mul_succ]

theorem fuel_rest_cons {pre r ts : List Token} {t : Token} (h : pre ++ t :: r = ts) :
    fc T * r.length + fc T ≤ fc T * ts.length := by
  rw [← Nat.mul_succ]
  exact Nat.mul_le_mul_left _ (by rw [← h, List.length_append, List.length_cons]; omega)

/-- `fc T` per token, plus the longest chain of calls down to `primary` that consumes no token. -/
structure NoFuelAt (n : Nat) : Prop where
  expression : ∀ ts, fc T * ts.length + 7 + T.levels.length ≤ n → expression T n ts ≠ .error .fuel
  assignment : ∀ ts, fc T * ts.length + 6 + T.levels.length ≤ n → assignment T n ts ≠ .error .fuel
  tilde : ∀ ts, fc T * ts.length + 5 + T.levels.length ≤ n → tilde T n ts ≠ .error .fuel
  binLevel : ∀ lv ts, lv.length ≤ T.levels.length → fc T * ts.length + 4 + lv.length ≤ n →
    binLevel T n lv ts ≠ .error .fuel
  binLoop : ∀ ops lv acc ts, lv.length ≤ T.levels.length → fc T * ts.length + 1 ≤ n →
    binLoop T n ops lv acc ts ≠ .error .fuel
  unary : ∀ ts, fc T * ts.length + 3 ≤ n → unary T n ts ≠ .error .fuel
  call : ∀ ts, fc T * ts.length + 2 ≤ n → call T n ts ≠ .error .fuel
  callLoop : ∀ acc ts, fc T * ts.length + 1 ≤ n → callLoop T n acc ts ≠ .error .fuel
  argList : ∀ ts, fc T * ts.length + 8 + T.levels.length ≤ n → argList T n ts ≠ .error .fuel
  primary : ∀ ts, fc T * ts.length + 1 ≤ n → primary T n ts ≠ .error .fuel

theorem noFuelAt_succ (n : Nat) (ih : NoFuelAt T n) : NoFuelAt T (n + 1) := by
  have y := yieldAt T n
  have hdrop : (T.levels.drop T.tildeRight).length ≤ T.levels.length := by simp
  have hfc : fc T = T.levels.length + 12 := rfl
  constructor
  · intro ts h
    rw [expression]; exact ih.assignment _ (by omega)
  · intro ts h
    rw [assignment]
    refine bind_nofuel (ih.tilde ts (by omega)) ?_
    rintro ⟨e, _ | ⟨t, ts2⟩⟩ heq
    · nofun
    · dsimp only; split
      · have := fuel_rest_cons T (y.tilde _ _ _ heq)
        refine bind_nofuel (ih.binLevel _ ts2 hdrop (by omega)) ?_
        rintro ⟨r, ts3⟩ -
        dsimp only; split <;> nofun
      · nofun
  · intro ts h
    rw [tilde]
    refine bind_nofuel (ih.binLevel _ ts (Nat.le_refl _) (by omega)) ?_
    rintro ⟨e, _ | ⟨t, ts2⟩⟩ heq
    · nofun
    · dsimp only; split
      · have := fuel_rest_cons T (y.binLevel _ _ _ _ heq)
        exact bind_nofuel (ih.binLevel _ ts2 hdrop (by omega)) fun _ _ => nofun
      · nofun
  · intro lv ts hlv h
    cases lv with
    | nil => rw [binLevel]; exact ih.unary _ (by simp at h; omega)
    | cons ops rest =>
      rw [binLevel]
      simp only [List.length_cons] at h hlv
      refine bind_nofuel (ih.binLevel _ ts (by omega) (by omega)) ?_
      rintro ⟨e, ts1⟩ heq
      have := fuel_rest T (y.binLevel _ _ _ _ heq)
      exact ih.binLoop _ _ _ _ (by omega) (by omega)
  · intro ops lv acc ts hlv h
    rcases ts with _ | ⟨t, ts1⟩ <;> rw [binLoop]
    · nofun
    · have := fuel_cons T t ts1
      split
      · refine bind_nofuel (ih.binLevel _ ts1 hlv (by omega)) ?_
        rintro ⟨r, ts2⟩ heq
        have := fuel_rest T (y.binLevel _ _ _ _ heq)
        exact ih.binLoop _ _ _ _ hlv (by omega)
      · nofun
  · intro ts h
    rcases ts with _ | ⟨t, ts1⟩ <;> rw [unary]
    · exact ih.call _ (by omega)
    · have := fuel_cons T t ts1
      split
      · exact bind_nofuel (ih.unary ts1 (by omega)) fun _ _ => nofun
      · exact ih.call _ (by omega)
  · intro ts h
    rw [call]
    refine bind_nofuel (ih.primary ts (by omega)) ?_
    rintro ⟨e, ts1⟩ heq
    have := fuel_rest T (y.primary _ _ _ heq)
    exact ih.callLoop _ _ (by omega)
  · intro acc ts h
    have args : ∀ t ts1, fc T * ts1.length + fc T ≤ n →
        (argList T n ts1 >>= fun x => consume .RIGHT_PAREN x.2 >>= fun y =>
          callLoop T n (.call acc t x.1 y.1) y.2) ≠ .error .fuel := by
      intro t ts1 h1
      refine bind_nofuel (ih.argList _ (by omega)) ?_
      rintro ⟨as, ts3⟩ heq
      refine bind_nofuel (consume_ne_fuel _ _) ?_
      rintro ⟨rp, ts4⟩ heq2
      obtain ⟨rfl, -⟩ := consume_ok heq2
      have := fuel_rest_cons T (y.argList _ _ _ heq)
      exact ih.callLoop _ ts4 (by omega)
    rcases ts with _ | ⟨t, ts1⟩
    · rw [callLoop]; nofun
    have h1 := fuel_cons T t ts1
    rcases ts1 with _ | ⟨u, ts2⟩ <;> rw [callLoop]
    · split
      · exact args t [] (by omega)
      · nofun
    · split
      · split
        · have := fuel_cons T u ts2
          exact ih.callLoop _ _ (by omega)
        · exact args t _ (by omega)
      · nofun
  · intro ts h
    rw [argList]
    refine bind_nofuel (ih.expression ts (by omega)) ?_
    rintro ⟨e, _ | ⟨t, ts2⟩⟩ heq
    · nofun
    · dsimp only; split
      · have := fuel_rest_cons T (y.expression _ _ _ heq)
        exact bind_nofuel (ih.argList ts2 (by omega)) fun _ _ => nofun
      · nofun
  · intro ts h
    rcases ts with _ | ⟨t, ts1⟩
    · rw [primary]; nofun
    have h1 := fuel_cons T t ts1
    have closed : ∀ k (f : Expr → Token → Expr),
        (expression T n ts1 >>= fun x => consume k x.2 >>= fun y => pure (f x.1 y.1, y.2)) ≠
          .error .fuel := fun k f =>
      bind_nofuel (ih.expression _ (by omega)) fun _ _ =>
        bind_nofuel (consume_ne_fuel _ _) fun _ _ => nofun
    rw [primary.eq_def]; dsimp only
    split
    · rcases ts1 with _ | ⟨lb, ts2⟩
      · nofun
      · have := fuel_cons T lb ts2
        dsimp only; split
        · refine bind_nofuel (ih.primary _ (by omega)) ?_
          rintro ⟨lv, ts3⟩ -
          dsimp only; split
          · exact bind_nofuel (consume_ne_fuel _ _) fun _ _ => nofun
          · nofun
        · nofun
    iterate 4 nofun
    iterate 2 exact closed _ _
    nofun

theorem noFuelAt (n : Nat) : NoFuelAt T n := by
  induction n with
  | zero => constructor <;> intros <;> omega
  | succ n ih => exact noFuelAt_succ T n ih

theorem parse_ne_fuel (ts : List Token) : parse T ts ≠ .error .fuel := by
  unfold parse parseFuel
  refine bind_nofuel ((noFuelAt T _).expression ts ?_) ?_
  · unfold fuelFor fc
    rw [Nat.mul_add]; omega
  · rintro ⟨e, rest⟩ _
    dsimp only
    split
    · split <;> nofun
    · nofun

theorem parse_of_parseFuel {n : Nat} {ts : List Token} {e : Expr}
    (h : parseFuel T n ts = .ok e) : parse T ts = .ok e := by
  rcases Nat.le_total n (fuelFor T ts) with hle | hle
  · unfold parse
    rw [parseFuel_mono T hle ts (by simp [h]), h]
  · have := parseFuel_mono T hle ts (parse_ne_fuel T ts)
    unfold parse
    rw [← this, h]

/-! ### Completeness -/

def HeadIs (P : Kind → Prop) (rest : List Token) : Prop := ∀ t tl, rest = t :: tl → P t.kind

theorem HeadIs.cons {P : Kind → Prop} {t : Token} {tl : List Token} (h : P t.kind) :
    HeadIs P (t :: tl) := by
  intro _ _ e; cases e; exact h

theorem HeadIs.mono {P Q : Kind → Prop} {rest : List Token} (hr : HeadIs P rest)
    (h : ∀ k, P k → Q k) : HeadIs Q rest :=
  fun t tl e => h _ (hr t tl e)

/-- What may follow a complete operand of level `m`. -/
def followK (m : Nat) (k : Kind) : Prop :=
  k ≠ .LEFT_PAREN ∧ k ≠ .LEFT_BRACKET ∧ ∀ i, opLevel T k = some i → i < m

/-- What may follow an `expression`, besides the end of input. -/
def topK (k : Kind) : Prop :=
  k = .RIGHT_PAREN ∨ k = .RIGHT_BRACKET ∨ k = .RIGHT_BRACE ∨ k = .COMMA

def Parses (p : Nat → List Token → PE) (P : Kind → Prop) (e : Expr) : Prop :=
  ∀ rest, HeadIs P rest → ∃ n, p n (e.flat ++ rest) = .ok (e, rest)

/-- `p` reads an operand, then runs the loop `k` on it. -/
def Resumes (p : Nat → List Token → PE) (k : Nat → Expr → List Token → PE) (P : Kind → Prop)
    (e : Expr) : Prop :=
  ∀ rest, HeadIs P rest → ∀ res n1, k n1 e rest = .ok res → ∃ n, p n (e.flat ++ rest) = .ok res

theorem followK_mono {m m' : Nat} (h : m ≤ m') (k : Kind) (hf : followK T m k) : followK T m' k :=
  ⟨hf.1, hf.2.1, fun i hi => Nat.lt_of_lt_of_le (hf.2.2 i hi) h⟩

theorem followK_of_closer (hW : TableWF T = true) {k : Kind} (hc : closers.contains k = true)
    (h1 : k ≠ .LEFT_PAREN) (h2 : k ≠ .LEFT_BRACKET) (m : Nat) : followK T m k :=
  ⟨h1, h2, fun i hi => by rw [opLevel_closer T hW k hc] at hi; cases hi⟩

theorem topK_ne {k : Kind} (h : topK k) : k ≠ .TILDE ∧ k ≠ .EQUAL := by
  rcases h with rfl | rfl | rfl | rfl <;> exact ⟨nofun, nofun⟩

theorem followK_of_top (hW : TableWF T = true) (m : Nat) (k : Kind) (h : topK k) : followK T m k := by
  rcases h with rfl | rfl | rfl | rfl <;>
    exact followK_of_closer T hW (by decide) (by decide) (by decide) m

theorem opLevel_lt {k : Kind} {i : Nat} (h : opLevel T k = some i) : i < T.levels.length :=
  (List.findIdx?_eq_some_iff_getElem.mp h).1

theorem mem_of_opLevel {k : Kind} {i : Nat} (h : opLevel T k = some i) {ops lv}
    (hd : T.levels.drop i = ops :: lv) : ops.contains k = true := by
  obtain ⟨hi, h1, _⟩ := List.findIdx?_eq_some_iff_getElem.mp h
  have : T.levels[i] = ops := by
    have := congrArg List.head? hd
    rw [List.head?_drop] at this
    simpa [List.getElem?_eq_getElem hi] using this
  rw [← this]; exact h1

theorem not_mem_of_followK (hW : TableWF T = true) {m : Nat} {ops lv}
    (hd : T.levels.drop m = ops :: lv) (k : Kind) (hf : followK T m k) : ops.contains k = false := by
  cases hc : ops.contains k with
  | false => rfl
  | true =>
    have := hf.2.2 m (opLevel_of_mem T (levelsOK_of_wf T hW) m ops lv hd k hc)
    omega

theorem drop_cons_of_lt {m : Nat} (h : m < T.levels.length) :
    ∃ ops, T.levels.drop m = ops :: T.levels.drop (m + 1) :=
  ⟨T.levels[m], List.drop_eq_getElem_cons h⟩

theorem binLevel_cons {n1 n2 : Nat} {ops lv ts e0 r0 res}
    (h1 : binLevel T n1 lv ts = .ok (e0, r0)) (h2 : binLoop T n2 ops lv e0 r0 = .ok res) :
    ∃ n, binLevel T n (ops :: lv) ts = .ok res := by
  refine ⟨max n1 n2 + 1, ?_⟩
  simp only [binLevel, bind, Except.bind]
  rw [binLevel_mono T (Nat.le_max_left n1 n2) h1]
  exact binLoop_mono T (Nat.le_max_right n1 n2) h2

theorem binLoop_step {n1 n2 : Nat} {ops lv acc t ts1 r ts2 res}
    (hk : ops.contains t.kind = true)
    (h1 : binLevel T n1 lv ts1 = .ok (r, ts2))
    (h2 : binLoop T n2 ops lv (.binary acc t r) ts2 = .ok res) :
    ∃ n, binLoop T n ops lv acc (t :: ts1) = .ok res := by
  refine ⟨max n1 n2 + 1, ?_⟩
  simp only [binLoop, hk, if_true, bind, Except.bind]
  rw [binLevel_mono T (Nat.le_max_left n1 n2) h1]
  exact binLoop_mono T (Nat.le_max_right n1 n2) h2

theorem binLoop_exit {ops lv acc ts} (h : HeadIs (ops.contains · = false) ts) :
    binLoop T 1 ops lv acc ts = .ok (acc, ts) := by
  cases ts with
  | nil => rfl
  | cons t tl => simp only [binLoop, h t tl rfl, pure, Except.pure]; rfl

theorem callLoop_exit {acc ts} (h : HeadIs (· ≠ .LEFT_PAREN) ts) :
    callLoop T 1 acc ts = .ok (acc, ts) := by
  cases ts with
  | nil => rfl
  | cons t tl => simp [callLoop, h t tl rfl, pure, Except.pure]

theorem consume_cons {k : Kind} {t : Token} {ts : List Token} (h : t.kind = k) :
    consume k (t :: ts) = .ok (t, ts) := by simp [consume, h]

theorem tilde_of_bin {n : Nat} {ts e r} (h : binLevel T n T.levels ts = .ok (e, r))
    (hr : HeadIs (· ≠ .TILDE) r) : tilde T (n + 1) ts = .ok (e, r) := by
  simp only [tilde, bind, Except.bind, h]
  cases r with
  | nil => rfl
  | cons t tl => simp [hr t tl rfl, pure, Except.pure]

theorem expression_of_tilde {n : Nat} {ts e r} (h : tilde T n ts = .ok (e, r))
    (hr : HeadIs (· ≠ .EQUAL) r) : expression T (n + 2) ts = .ok (e, r) := by
  simp only [expression, assignment, bind, Except.bind, h]
  cases r with
  | nil => rfl
  | cons t tl => simp [hr t tl rfl, pure, Except.pure]

/-- A result of a higher level is a result of a lower level when no loop in between fires. -/
theorem binLevel_lift (hW : TableWF T = true) {m j : Nat} {ts e rest} (hm : m ≤ j)
    (hj : j ≤ T.levels.length) (h : ∃ n, binLevel T n (T.levels.drop j) ts = .ok (e, rest))
    (hf : HeadIs (followK T m) rest) : ∃ n, binLevel T n (T.levels.drop m) ts = .ok (e, rest) := by
  obtain ⟨d, rfl⟩ := Nat.exists_eq_add_of_le hm
  induction d generalizing m with
  | zero => exact h
  | succ d ih =>
    rw [show m + (d + 1) = m + 1 + d by omega] at h hj
    obtain ⟨n1, h1⟩ := ih (hf.mono (followK_mono T (Nat.le_succ m))) (Nat.le_add_right _ _) hj h
    obtain ⟨ops, hd⟩ := drop_cons_of_lt T (m := m) (by omega)
    rw [hd]
    exact binLevel_cons T h1 (binLoop_exit T (hf.mono (not_mem_of_followK T hW hd)))

theorem stratBin_binary {l : Expr} {op : Token} {r : Expr} (h : stratBin T (.binary l op r) = true) :
    ∃ i, opLevel T op.kind = some i ∧ stratBin T l = true ∧ stratBin T r = true ∧ i ≤ lvl T l ∧
      i < lvl T r := by
  simp only [stratBin] at h
  split at h
  · rename_i i hi
    simp only [Bool.and_eq_true, decide_eq_true_eq] at h
    exact ⟨i, hi, h.1.1.1, h.1.1.2, h.1.2, h.2⟩
  · cases h

theorem firstTok1 (e : Expr) (h : stratBin T e = true) (hp : (isPrimary e || isCall e) = true) :
    ∃ t tl, e.flat = t :: tl ∧ starters.contains t.kind = true := by
  match e with
  | .call c lp as rp =>
    simp only [stratBin, Bool.and_eq_true] at h
    obtain ⟨t, tl, h1, h2⟩ := firstTok1 c h.1.1.1.2 h.1.1.1.1
    exact ⟨t, tl ++ lp :: as.flat ++ [rp], by simp [Expr.flat, h1], h2⟩
  | .variable n | .quoted n =>
    simp only [stratBin, beq_iff_eq] at h
    exact ⟨n, [], rfl, by rw [h]; rfl⟩
  | .literal n =>
    simp only [stratBin, beq_iff_eq, Bool.or_eq_true] at h
    exact ⟨n, [], rfl, by rcases h with (h | h) | h <;> rw [h] <;> rfl⟩
  | .subset n .. | .grouping n .. | .brace n .. =>
    simp only [stratBin, beq_iff_eq, Bool.and_eq_true] at h
    exact ⟨n, _, rfl, by simp [h, starters]⟩
  | .binary .. | .unary .. | .assign .. => cases hp

def startOk (k : Kind) : Prop := starters.contains k = true ∨ T.unaryOps.contains k = true

theorem firstTok (hW : TableWF T = true) (e : Expr) (h : stratTop T e = true) :
    ∃ t tl, e.flat = t :: tl ∧ startOk T t.kind := by
  match e with
  | .assign n eq v =>
    simp only [stratTop, Bool.and_eq_true] at h
    obtain ⟨t, tl, h1, h2⟩ := firstTok hW n (stratTop_of_stratBin T hW n h.1.1.1.2)
    exact ⟨t, tl ++ eq :: v.flat, by simp [Expr.flat, h1], h2⟩
  | .binary l op r =>
    have hl : stratBin T l = true := by
      simp only [stratTop] at h; split at h
      · simp only [Bool.and_eq_true] at h; exact h.1.1
      · obtain ⟨_, _, hl, _⟩ := stratBin_binary T h; exact hl
    obtain ⟨t, tl, h1, h2⟩ := firstTok hW l (stratTop_of_stratBin T hW l hl)
    exact ⟨t, tl ++ op :: r.flat, by simp [Expr.flat, h1], h2⟩
  | .unary op r =>
    simp only [stratTop, stratBin, Bool.and_eq_true] at h
    exact ⟨op, r.flat, rfl, Or.inr h.1.1⟩
  | .call .. | .variable _ | .literal _ | .quoted _ | .subset .. | .grouping .. | .brace .. =>
    obtain ⟨t, tl, h1, h2⟩ := firstTok1 T _ (by simpa [stratTop] using h) rfl
    exact ⟨t, tl, h1, Or.inl h2⟩

theorem startOk_not_rparen (hW : TableWF T = true) {k : Kind} (h : startOk T k) :
    k ≠ .RIGHT_PAREN := by
  rintro rfl
  rcases h with h | h
  · revert h; decide
  · have := (unaryOps_of_wf T hW h).1
    revert this; decide

theorem firstTokArgs (hW : TableWF T = true) (a : Args) (h : stratArgs T a = true) (hn : a ≠ .nil) :
    ∃ t tl, a.flat = t :: tl ∧ t.kind ≠ .RIGHT_PAREN := by
  cases a with
  | nil => exact absurd rfl hn
  | last e =>
    simp only [stratArgs] at h
    obtain ⟨t, tl, h1, h2⟩ := firstTok T hW e h
    exact ⟨t, tl, by simp [Args.flat, h1], startOk_not_rparen T hW h2⟩
  | more e c rest =>
    unfold stratArgs at h
    simp only [Bool.and_eq_true] at h
    obtain ⟨t, tl, h1, h2⟩ := firstTok T hW e h.1.1.1
    exact ⟨t, tl ++ c :: rest.flat, by simp [Args.flat, h1], startOk_not_rparen T hW h2⟩

/-- `prim` and `callLoop` exclude a following `[`: `primary` looks for one after an identifier. -/
structure RT (e : Expr) : Prop where
  top : stratTop T e = true → Parses (expression T) topK e
  bin : stratBin T e = true → ∀ m, m ≤ lvl T e → m ≤ T.levels.length →
    Parses (binLevel T · (T.levels.drop m)) (followK T m) e
  loop : stratBin T e = true → ∀ m ops lv, T.levels.drop m = ops :: lv → m ≤ lvl T e →
    Resumes (binLevel T · (ops :: lv)) (binLoop T · ops lv) (followK T (m + 1)) e
  un : stratBin T e = true → T.levels.length ≤ lvl T e →
    Parses (unary T) (followK T T.levels.length) e
  prim : stratBin T e = true → isPrimary e = true → Parses (primary T) (· ≠ .LEFT_BRACKET) e
  callLoop : stratBin T e = true → (isPrimary e || isCall e) = true →
    Resumes (call T) (callLoop T) (· ≠ .LEFT_BRACKET) e

structure RTA (a : Args) : Prop where
  args : stratArgs T a = true → a ≠ .nil →
    ∀ rest, (∀ t tl, rest = t :: tl → t.kind = .RIGHT_PAREN) →
    ∃ n, argList T n (a.flat ++ rest) = .ok (a, rest)

theorem bin_of_un (hW : TableWF T = true) (e : Expr)
    (hU : Parses (unary T) (followK T T.levels.length) e) (m : Nat) (hm : m ≤ T.levels.length) :
    Parses (binLevel T · (T.levels.drop m)) (followK T m) e := by
  intro rest hf
  obtain ⟨n, hn⟩ := hU rest (hf.mono (followK_mono T hm))
  refine binLevel_lift T hW hm (Nat.le_refl _) ⟨n + 1, ?_⟩ hf
  rw [List.drop_length]; simpa [binLevel] using hn

theorem loop_of_bin (e : Expr) (m : Nat) {ops lv} (hd : T.levels.drop m = ops :: lv)
    (hB : Parses (binLevel T · (T.levels.drop (m + 1))) (followK T (m + 1)) e) :
    Resumes (binLevel T · (ops :: lv)) (binLoop T · ops lv) (followK T (m + 1)) e := by
  intro rest hf res n1 h1
  obtain ⟨n, hn⟩ := hB rest hf
  rw [(drop_succ_of_drop T hd).1] at hn
  exact binLevel_cons T hn h1

theorem top_of_bin (hW : TableWF T = true) (e : Expr)
    (hB : Parses (binLevel T · (T.levels.drop 0)) (followK T 0) e) : Parses (expression T) topK e := by
  intro rest hf
  obtain ⟨n, hn⟩ := hB rest (hf.mono (followK_of_top T hW 0))
  exact ⟨n + 3, expression_of_tilde T (tilde_of_bin T hn (hf.mono fun _ h => (topK_ne h).1))
    (hf.mono fun _ h => (topK_ne h).2)⟩

theorem un_of_callLoop (hW : TableWF T = true) (e : Expr) (hs : stratBin T e = true)
    (hp : (isPrimary e || isCall e) = true)
    (hC : Resumes (call T) (callLoop T) (· ≠ .LEFT_BRACKET) e) :
    Parses (unary T) (followK T T.levels.length) e := by
  intro rest hf
  obtain ⟨n, hn⟩ := hC rest (hf.mono fun _ h => h.2.1) (e, rest) 1
    (callLoop_exit T (hf.mono fun _ h => h.1))
  obtain ⟨t, tl, h1, h2⟩ := firstTok1 T e hs hp
  have hnu : T.unaryOps.contains t.kind = false := by
    cases hc : T.unaryOps.contains t.kind with
    | false => rfl
    | true => rw [(unaryOps_of_wf T hW hc).2] at h2; cases h2
  refine ⟨n + 1, ?_⟩
  rw [h1] at hn ⊢
  simp only [List.cons_append, unary, hnu]
  simpa using hn

theorem callLoop_of_prim (e : Expr) (hP : Parses (primary T) (· ≠ .LEFT_BRACKET) e) :
    Resumes (call T) (callLoop T) (· ≠ .LEFT_BRACKET) e := by
  intro rest hr res n1 h1
  obtain ⟨n, hn⟩ := hP rest hr
  refine ⟨max n n1 + 1, ?_⟩
  simp only [call, bind, Except.bind]
  rw [primary_mono T (Nat.le_max_left n n1) hn]
  exact callLoop_mono T (Nat.le_max_right n n1) h1

theorem rt_nonbin (hW : TableWF T = true) (e : Expr) (htop : stratTop T e = stratBin T e)
    (hU : stratBin T e = true → Parses (unary T) (followK T T.levels.length) e)
    (hP : stratBin T e = true → isPrimary e = true → Parses (primary T) (· ≠ .LEFT_BRACKET) e)
    (hC : stratBin T e = true → (isPrimary e || isCall e) = true →
      Resumes (call T) (callLoop T) (· ≠ .LEFT_BRACKET) e) : RT T e := by
  refine ⟨?_, ?_, ?_, ?_, hP, hC⟩
  · intro hs
    rw [htop] at hs
    exact top_of_bin T hW e (bin_of_un T hW e (hU hs) 0 (Nat.zero_le _))
  · intro hs m _ hm
    exact bin_of_un T hW e (hU hs) m hm
  · intro hs m ops lv hd _
    exact loop_of_bin T e m hd (bin_of_un T hW e (hU hs) (m + 1) (drop_succ_of_drop T hd).2)
  · intro hs _
    exact hU hs

theorem stratTop_eq_of_pc (e : Expr) (hp : (isPrimary e || isCall e) = true) :
    stratTop T e = stratBin T e := by
  cases e <;> simp_all [stratTop, isPrimary, isCall]

theorem rt_primlike (hW : TableWF T = true) (e : Expr) (hp : isPrimary e = true)
    (hP : stratBin T e = true → Parses (primary T) (· ≠ .LEFT_BRACKET) e) : RT T e := by
  have hpc : (isPrimary e || isCall e) = true := by simp [hp]
  have hC := fun hs => callLoop_of_prim T e (hP hs)
  exact rt_nonbin T hW e (stratTop_eq_of_pc T e hpc)
    (fun hs => un_of_callLoop T hW e hs hpc (hC hs)) (fun hs _ => hP hs) (fun hs _ => hC hs)

theorem rt_variable (hW : TableWF T = true) (t : Token) : RT T (.variable t) := by
  refine rt_primlike T hW _ rfl ?_
  intro hs rest hr
  simp only [stratBin, beq_iff_eq] at hs
  refine ⟨1, ?_⟩
  cases rest with
  | nil => simp [primary, Expr.flat, hs, pure, Except.pure]
  | cons u tl => simp [primary, Expr.flat, hs, hr u tl rfl, pure, Except.pure]

theorem rt_literal (hW : TableWF T = true) (t : Token) : RT T (.literal t) := by
  refine rt_primlike T hW _ rfl ?_
  intro hs rest hr
  simp only [stratBin, beq_iff_eq, Bool.or_eq_true] at hs
  refine ⟨1, ?_⟩
  rcases hs with (hs | hs) | hs <;> simp [primary, Expr.flat, hs, pure, Except.pure]

theorem rt_quoted (hW : TableWF T = true) (t : Token) : RT T (.quoted t) := by
  refine rt_primlike T hW _ rfl ?_
  intro hs rest hr
  simp only [stratBin, beq_iff_eq] at hs
  exact ⟨1, by simp [primary, Expr.flat, hs, pure, Except.pure]⟩

theorem rt_closed (hW : TableWF T = true) (o : Token) (e : Expr) (c : Token) (he : RT T e) :
    RT T (.grouping o e c) ∧ RT T (.brace o e c) := by
  constructor <;>
  · refine rt_primlike T hW _ rfl ?_
    intro hs rest hr
    simp only [stratBin, beq_iff_eq, Bool.and_eq_true] at hs
    obtain ⟨n, hn⟩ := he.top hs.2 (c :: rest) (.cons (by simp [topK, hs.1.2]))
    refine ⟨n + 1, ?_⟩
    simp only [Expr.flat, List.cons_append, List.append_assoc, List.nil_append, primary, hs.1.1, bind,
      Except.bind, hn, consume_cons hs.1.2, pure, Except.pure]

theorem rt_subset (hW : TableWF T = true) (nm lb : Token) (lv : Expr) (rb : Token) (hlv : RT T lv) :
    RT T (.subset nm lb lv rb) := by
  refine rt_primlike T hW _ rfl ?_
  intro hs rest hr
  simp only [stratBin, beq_iff_eq, Bool.and_eq_true] at hs
  obtain ⟨⟨⟨⟨⟨h1, h2⟩, h3⟩, h4⟩, h5⟩, h6⟩ := hs
  obtain ⟨n, hn⟩ := hlv.prim h6 h4 (rb :: rest) (.cons (by rw [h3]; nofun))
  refine ⟨n + 1, ?_⟩
  simp only [Expr.flat, List.cons_append, List.append_assoc, List.nil_append, primary, h1, h2, if_true, bind, Except.bind, hn,
    consume_cons h3, pure, Except.pure, h5]

theorem rt_unary (hW : TableWF T = true) (op : Token) (r : Expr) (hr : RT T r) :
    RT T (.unary op r) := by
  refine rt_nonbin T hW _ (by simp [stratTop]) ?_ (by intro _ h; cases h) (by intro _ h; cases h)
  intro hs rest hf
  simp only [stratBin, Bool.and_eq_true, decide_eq_true_eq] at hs
  obtain ⟨n, hn⟩ := hr.un hs.1.2 hs.2 rest hf
  refine ⟨n + 1, ?_⟩
  simp only [Expr.flat, List.cons_append, unary, hs.1.1, if_true, bind, Except.bind, hn, pure, Except.pure]

theorem rta_last (e : Expr) (he : RT T e) : RTA T (.last e) := by
  refine ⟨?_⟩
  intro hs _ rest hr
  simp only [stratArgs] at hs
  obtain ⟨n, hn⟩ := he.top hs rest (HeadIs.mono (P := (· = .RIGHT_PAREN)) hr fun _ => .inl)
  refine ⟨n + 1, ?_⟩
  simp only [Args.flat, argList, bind, Except.bind, hn]
  cases rest with
  | nil => rfl
  | cons t tl =>
    have : t.kind ≠ .COMMA := by rw [hr t tl rfl]; decide
    simp [this, pure, Except.pure]

theorem rta_more (e : Expr) (c : Token) (a : Args) (he : RT T e) (ha : RTA T a) :
    RTA T (.more e c a) := by
  refine ⟨?_⟩
  intro hs _ rest hr
  unfold stratArgs at hs
  simp only [Bool.and_eq_true, beq_iff_eq] at hs
  obtain ⟨⟨⟨h1, h2⟩, h3⟩, h4⟩ := hs
  have hne : a ≠ .nil := by intro hc; subst hc; simp at h4
  obtain ⟨n1, hn1⟩ := he.top h1 (c :: (a.flat ++ rest)) (.cons (.inr (.inr (.inr h2))))
  obtain ⟨n2, hn2⟩ := ha.args h3 hne rest hr
  refine ⟨max n1 n2 + 1, ?_⟩
  simp only [Args.flat, List.append_assoc, List.cons_append, argList, bind, Except.bind,
    expression_mono T (Nat.le_max_left n1 n2) hn1, h2, if_true,
    argList_mono T (Nat.le_max_right n1 n2) hn2, pure, Except.pure]

theorem rt_call (hW : TableWF T = true) (c : Expr) (lp : Token) (as : Args) (rp : Token)
    (hc : RT T c) (ha : RTA T as) : RT T (.call c lp as rp) := by
  have hC : stratBin T (.call c lp as rp) = true →
      Resumes (call T) (callLoop T) (· ≠ .LEFT_BRACKET) (.call c lp as rp) := by
    intro hs rest hr res n1 h1
    simp only [stratBin, Bool.and_eq_true, beq_iff_eq] at hs
    obtain ⟨⟨⟨⟨h1c, h2c⟩, hlp⟩, hrp⟩, hsa⟩ := hs
    have hflat : (Expr.call c lp as rp).flat ++ rest = c.flat ++ lp :: (as.flat ++ rp :: rest) := by
      simp [Expr.flat]
    rw [hflat]
    suffices h : ∃ n, callLoop T n c (lp :: (as.flat ++ rp :: rest)) = .ok res by
      obtain ⟨n, hn⟩ := h
      exact hc.callLoop h2c h1c _ (.cons (by rw [hlp]; nofun)) res n hn
    by_cases hnil : as = .nil
    · subst hnil
      refine ⟨n1 + 1, ?_⟩
      simp only [Args.flat, List.nil_append, callLoop, hlp, hrp, if_true]
      exact h1
    · obtain ⟨u, tl, hu, hune⟩ := firstTokArgs T hW as hsa hnil
      obtain ⟨n2, hn2⟩ := ha.args hsa hnil (rp :: rest) (by intro t tl ht; cases ht; exact hrp)
      refine ⟨max n1 n2 + 1, ?_⟩
      have hts : as.flat ++ rp :: rest = u :: (tl ++ rp :: rest) := by simp [hu]
      have hn2' := argList_mono T (Nat.le_max_right n1 n2) hn2
      rw [hts] at hn2' ⊢
      simp only [callLoop, hlp, if_true, hune, if_false, bind, Except.bind, hn2', consume_cons hrp]
      exact callLoop_mono T (Nat.le_max_left n1 n2) h1
  exact rt_nonbin T hW _ (stratTop_eq_of_pc T _ rfl)
    (fun hs => un_of_callLoop T hW _ hs rfl (hC hs)) (by intro _ h; cases h) (fun hs _ => hC hs)

/-- Both operands of a one-shot operator (`~`, `=`), with one amount of fuel. -/
theorem oneShot (hW : TableWF T = true) {l v : Expr} {t : Token} (hl : RT T l) (hv : RT T v)
    (hsl : stratBin T l = true) (hsv : stratBin T v = true) (htr : T.tildeRight ≤ lvl T v)
    (ht : t.kind = .TILDE ∨ t.kind = .EQUAL) {rest} (hf : HeadIs topK rest) :
    ∃ n, binLevel T n T.levels (l.flat ++ t :: (v.flat ++ rest)) = .ok (l, t :: (v.flat ++ rest)) ∧
      binLevel T n (T.levels.drop T.tildeRight) (v.flat ++ rest) = .ok (v, rest) := by
  obtain ⟨n1, hn1⟩ := hl.bin hsl 0 (Nat.zero_le _) (Nat.zero_le _) (t :: (v.flat ++ rest))
    (.cons (by rcases ht with h | h <;> rw [h] <;>
      exact followK_of_closer T hW (by decide) (by decide) (by decide) 0))
  obtain ⟨n2, hn2⟩ := hv.bin hsv T.tildeRight htr (tildeRight_le_of_wf T hW) rest
    (hf.mono (followK_of_top T hW _))
  exact ⟨max n1 n2, binLevel_mono T (Nat.le_max_left n1 n2) hn1,
    binLevel_mono T (Nat.le_max_right n1 n2) hn2⟩

theorem rt_binary (hW : TableWF T = true) (l : Expr) (op : Token) (r : Expr)
    (hl : RT T l) (hr : RT T r) : RT T (.binary l op r) := by
  have hflat : ∀ rest, (Expr.binary l op r).flat ++ rest = l.flat ++ op :: (r.flat ++ rest) := by
    intro rest; simp [Expr.flat]
  -- at the operator's own level `i`: resume the left child's loop with accumulator `l`; one
  -- `binLoop_step` consumes `op` and `r` (parsed at level `i + 1`) and hands on `l op r`
  have loopI : stratBin T (.binary l op r) = true → ∀ i, opLevel T op.kind = some i →
      ∀ ops lv, T.levels.drop i = ops :: lv →
      Resumes (binLevel T · (ops :: lv)) (binLoop T · ops lv) (followK T (i + 1)) (.binary l op r) := by
    intro hs i hop ops lv hd rest hf res n1 h1
    obtain ⟨i', hop', hsl, hsr, hil, hir⟩ := stratBin_binary T hs
    have : i' = i := by rw [hop] at hop'; cases hop'; rfl
    subst this
    have hiL := opLevel_lt T hop
    obtain ⟨n2, hn2⟩ := hr.bin hsr (i' + 1) (by omega) (by omega) rest hf
    rw [(drop_succ_of_drop T hd).1] at hn2
    obtain ⟨n3, hn3⟩ := binLoop_step T (acc := l) (mem_of_opLevel T hop hd) hn2 h1
    rw [hflat]
    have hnc : ∀ k, closers.contains k = true → op.kind ≠ k := fun k hk hc => by
      rw [hc, opLevel_closer T hW k hk] at hop; cases hop
    refine hl.loop hsl i' ops lv hd hil _ (.cons ⟨hnc _ (by decide), hnc _ (by decide), ?_⟩) res n3 hn3
    intro j hj; rw [hop] at hj; cases hj; omega
  -- from any level `m ≤ i`: close that loop (`binLoop_exit`) and come down with `binLevel_lift`;
  -- the fields of `RT` are instances of these two
  have binAll : stratBin T (.binary l op r) = true → ∀ m, m ≤ lvl T (.binary l op r) →
      m ≤ T.levels.length → Parses (binLevel T · (T.levels.drop m)) (followK T m) (.binary l op r) := by
    intro hs m hm _ rest hf
    obtain ⟨i, hop, _⟩ := stratBin_binary T hs
    have hlv : lvl T (.binary l op r) = i := by simp [lvl, hop]
    rw [hlv] at hm
    have hiL := opLevel_lt T hop
    obtain ⟨ops, hd⟩ := drop_cons_of_lt T hiL
    have hfi := hf.mono (followK_mono T hm)
    have := loopI hs i hop ops _ hd rest (hfi.mono (followK_mono T (by omega))) _ 1
      (binLoop_exit T (hfi.mono (not_mem_of_followK T hW hd)))
    rw [← hd] at this
    exact binLevel_lift T hW hm (by omega) this hf
  refine ⟨?_, binAll, ?_, ?_, (by intro _ h; cases h), (by intro _ h; cases h)⟩
  · intro hs rest hf
    simp only [stratTop] at hs
    split at hs
    · rename_i hk
      have hk' : op.kind = .TILDE := by simpa using hk
      simp only [Bool.and_eq_true, decide_eq_true_eq] at hs
      obtain ⟨⟨hsl, hsr⟩, htr⟩ := hs
      obtain ⟨n, hn1, hn2⟩ := oneShot T hW hl hr hsl hsr htr (.inl hk') hf
      rw [hflat]
      refine ⟨n + 3, expression_of_tilde T (n := n + 1) ?_ ?_⟩
      · simp only [tilde, bind, Except.bind, hn1, hk', if_true, hn2, pure, Except.pure]
      · exact hf.mono fun _ h => (topK_ne h).2
    · exact top_of_bin T hW _ (binAll hs 0 (Nat.zero_le _) (Nat.zero_le _)) rest hf
  · intro hs m ops lv hd hm
    obtain ⟨i, hop, _⟩ := stratBin_binary T hs
    have hlv : lvl T (.binary l op r) = i := by simp [lvl, hop]
    by_cases hmi : m = i
    · subst hmi
      exact loopI hs m hop ops lv hd
    · have hmL := (drop_succ_of_drop T hd).2
      exact loop_of_bin T _ m hd (binAll hs (m + 1) (by omega) (by omega))
  · intro hs hL
    obtain ⟨i, hop, _⟩ := stratBin_binary T hs
    have hlv : lvl T (.binary l op r) = i := by simp [lvl, hop]
    have := opLevel_lt T hop
    omega

theorem rt_assign (hW : TableWF T = true) (nm : Expr) (eq : Token) (v : Expr)
    (hn : RT T nm) (hv : RT T v) : RT T (.assign nm eq v) := by
  have hF : stratBin T (.assign nm eq v) = false := by simp [stratBin]
  refine ⟨?_, by simp [hF], by simp [hF], by simp [hF], by simp [hF], by simp [hF]⟩
  intro hs rest hf
  simp only [stratTop, Bool.and_eq_true, decide_eq_true_eq, beq_iff_eq] at hs
  obtain ⟨⟨⟨⟨hvar, hsn⟩, heq⟩, hsv⟩, htr⟩ := hs
  obtain ⟨n, hn1, hn2⟩ := oneShot T hW hn hv hsn hsv htr (.inr heq) hf
  have ht := tilde_of_bin T hn1 (.cons (by rw [heq]; nofun))
  have hflat : (Expr.assign nm eq v).flat ++ rest = nm.flat ++ eq :: (v.flat ++ rest) := by
    simp [Expr.flat]
  rw [hflat]
  refine ⟨n + 3, ?_⟩
  simp only [expression, assignment, bind, Except.bind, ht, heq, if_true,
    binLevel_mono T (Nat.le_succ n) hn2, hvar, pure, Except.pure]

mutual
theorem rt (hW : TableWF T = true) : (e : Expr) → RT T e
  | .assign n eq v => rt_assign T hW n eq v (rt hW n) (rt hW v)
  | .grouping lp e rp => (rt_closed T hW lp e rp (rt hW e)).1
  | .binary l op r => rt_binary T hW l op r (rt hW l) (rt hW r)
  | .unary op r => rt_unary T hW op r (rt hW r)
  | .call c lp as rp => rt_call T hW c lp as rp (rt hW c) (rta hW as)
  | .brace lb e rb => (rt_closed T hW lb e rb (rt hW e)).2
  | .variable t => rt_variable T hW t
  | .subset n lb lv rb => rt_subset T hW n lb lv rb (rt hW lv)
  | .quoted t => rt_quoted T hW t
  | .literal t => rt_literal T hW t
theorem rta (hW : TableWF T = true) : (a : Args) → RTA T a
  | .nil => ⟨fun _ h => absurd rfl h⟩
  | .last e => rta_last T e (rt hW e)
  | .more e c rest => rta_more T e c rest (rt hW e) (rta hW rest)
end

theorem roundtrip_fuel (hW : TableWF T = true) (e : Expr) (h : stratTop T e = true) :
    ∃ n, parseFuel T n e.flat = .ok e := by
  obtain ⟨n, hn⟩ := (rt T hW e).top h [] (fun _ _ h => nomatch h)
  rw [List.append_nil] at hn
  refine ⟨n, ?_⟩
  simp only [parseFuel, bind, Except.bind, hn]
  split <;> rfl

theorem roundtrip (hW : TableWF T = true) (e : Expr) (h : stratTop T e = true) :
    parse T e.flat = .ok e := by
  obtain ⟨n, hn⟩ := roundtrip_fuel T hW e h
  exact parse_of_parseFuel T hn

/-! ### The fully parenthesised form -/

theorem isPrimary_groupAll (e : Expr) : isPrimary (groupAll e) = isPrimary e := by
  cases e <;> rfl

theorem isCall_groupAll (e : Expr) : isCall (groupAll e) = isCall e := by
  cases e <;> rfl

theorem groupAllArgs_eq_nil (a : Args) : groupAllArgs a = .nil ↔ a = .nil := by
  cases a <;> simp [groupAllArgs]

theorem stratBin_grouping_of (hW : TableWF T = true) (e : Expr) (h : stratBin T e = true) :
    stratBin T (.grouping lp e rp) = true := by
  simp [stratBin, lp, rp, stratTop_of_stratBin T hW e h]

mutual
/-- Every operand `groupAll` wraps is a `.grouping`, of level `T.levels.length + 1`, so each level
side condition of `stratBin` / `stratTop` is arithmetic on `lvl`; of the table only
`stratTop_of_stratBin` and `tildeRight_le_of_wf` are used. -/
theorem groupAll_strat (hW : TableWF T = true) : (e : Expr) →
    (stratBin T e = true → stratBin T (groupAll e) = true) ∧
    (stratTop T e = true → stratTop T (groupAll e) = true)
  | .assign n eq v => by
    refine ⟨by simp [stratBin], ?_⟩
    intro h
    simp only [stratTop, Bool.and_eq_true, decide_eq_true_eq, beq_iff_eq] at h
    obtain ⟨⟨⟨⟨hvar, hsn⟩, heq⟩, hsv⟩, htr⟩ := h
    have hTR := tildeRight_le_of_wf T hW
    have := stratBin_grouping_of T hW _ ((groupAll_strat hW v).1 hsv)
    simp only [groupAll, stratTop, hvar, hsn, heq, this, Bool.and_eq_true, decide_eq_true_eq, beq_self_eq_true, and_self, true_and]
    simp only [lvl]; omega
  | .grouping l e r => by
    have ih := groupAll_strat hW e
    have : stratBin T (.grouping l e r) = true → stratBin T (groupAll (.grouping l e r)) = true := by
      intro h
      simp only [stratBin, Bool.and_eq_true] at h
      simp [groupAll, stratBin, h.1.1, h.1.2, ih.2 h.2]
    exact ⟨this, fun h => by simpa [groupAll, stratTop] using this (by simpa [stratTop] using h)⟩
  | .binary l op r => by
    have ihl := groupAll_strat hW l
    have ihr := groupAll_strat hW r
    have hb : stratBin T (.binary l op r) = true → stratBin T (groupAll (.binary l op r)) = true := by
      intro h
      obtain ⟨i, hop, hsl, hsr, _, _⟩ := stratBin_binary T h
      have := opLevel_lt T hop
      simp only [groupAll, stratBin, hop, stratBin_grouping_of T hW _ (ihl.1 hsl),
        stratBin_grouping_of T hW _ (ihr.1 hsr), Bool.and_eq_true, decide_eq_true_eq, Bool.true_and]
      simp only [lvl]; omega
    refine ⟨hb, ?_⟩
    intro h
    simp only [stratTop] at h
    split at h
    · rename_i hk
      simp only [Bool.and_eq_true, decide_eq_true_eq] at h
      have hTR := tildeRight_le_of_wf T hW
      simp only [groupAll, stratTop, hk, if_true, stratBin_grouping_of T hW _ (ihl.1 h.1.1),
        stratBin_grouping_of T hW _ (ihr.1 h.1.2), decide_eq_true_eq, Bool.true_and]
      simp only [lvl]; omega
    · exact stratTop_of_stratBin T hW _ (hb h)
  | .unary op r => by
    have ih := groupAll_strat hW r
    have : stratBin T (.unary op r) = true → stratBin T (groupAll (.unary op r)) = true := by
      intro h
      simp only [stratBin, Bool.and_eq_true, decide_eq_true_eq] at h
      simp only [groupAll, stratBin, h.1.1, stratBin_grouping_of T hW _ (ih.1 h.1.2),
        decide_eq_true_eq, Bool.true_and]
      simp only [lvl]; omega
    exact ⟨this, fun h => by simpa [groupAll, stratTop] using this (by simpa [stratTop] using h)⟩
  | .call c l as r => by
    have ih := groupAll_strat hW c
    have iha := groupAllArgs_strat hW as
    have : stratBin T (.call c l as r) = true → stratBin T (groupAll (.call c l as r)) = true := by
      intro h
      simp only [stratBin, Bool.and_eq_true] at h
      obtain ⟨⟨⟨⟨h1, h2⟩, h3⟩, h4⟩, h5⟩ := h
      simp only [groupAll, stratBin, isPrimary_groupAll, isCall_groupAll, h1, ih.1 h2, h3, h4, iha h5,
        Bool.and_self]
    exact ⟨this, fun h => by simpa [groupAll, stratTop] using this (by simpa [stratTop] using h)⟩
  | .brace l e r => by
    have ih := groupAll_strat hW e
    have : stratBin T (.brace l e r) = true → stratBin T (groupAll (.brace l e r)) = true := by
      intro h
      simp only [stratBin, Bool.and_eq_true] at h
      simp [groupAll, stratBin, h.1.1, h.1.2, ih.2 h.2]
    exact ⟨this, fun h => by simpa [groupAll, stratTop] using this (by simpa [stratTop] using h)⟩
  | .variable _ | .subset .. | .quoted _ | .literal _ => ⟨id, id⟩
theorem groupAllArgs_strat (hW : TableWF T = true) : (a : Args) →
    stratArgs T a = true → stratArgs T (groupAllArgs a) = true
  | .nil => by simp [groupAllArgs]
  | .last e => by
    intro h
    simp only [stratArgs] at h
    simpa [groupAllArgs, stratArgs] using (groupAll_strat hW e).2 h
  | .more e c rest => by
    intro h
    unfold stratArgs at h
    simp only [Bool.and_eq_true] at h
    obtain ⟨⟨⟨h1, h2⟩, h3⟩, h4⟩ := h
    have hne : rest ≠ .nil := by intro hc; subst hc; simp at h4
    have hne' : groupAllArgs rest ≠ .nil := fun hc => hne ((groupAllArgs_eq_nil rest).1 hc)
    unfold groupAllArgs stratArgs
    simp only [(groupAll_strat hW e).2 h1, h2, groupAllArgs_strat hW rest h3, Bool.true_and]
end

mutual
theorem ungroup_groupAll : (e : Expr) → ungroup (groupAll e) = ungroup e
  | .assign n eq v => congrArg (Expr.assign (ungroup n) eq) (ungroup_groupAll v)
  | .grouping _ e _ => ungroup_groupAll e
  | .binary l op r => by simp only [groupAll, ungroup, ungroup_groupAll l, ungroup_groupAll r]
  | .unary op r => congrArg (Expr.unary op) (ungroup_groupAll r)
  | .call c l as r => by simp only [groupAll, ungroup, ungroup_groupAll c, ungroupArgs_groupAllArgs as]
  | .brace l e r => congrArg (Expr.brace l · r) (ungroup_groupAll e)
  | .variable _ | .subset .. | .quoted _ | .literal _ => rfl
theorem ungroupArgs_groupAllArgs : (a : Args) → ungroupArgs (groupAllArgs a) = ungroupArgs a
  | .nil => rfl
  | .last e => congrArg Args.last (ungroup_groupAll e)
  | .more e c rest => by simp only [groupAllArgs, ungroupArgs, ungroup_groupAll e, ungroupArgs_groupAllArgs rest]
end

end FormulaeModel.Parser

