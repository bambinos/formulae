import FormulaeModel.Proofs.TermsSpec
import FormulaeModel.Proofs.ScannerLemmas
/-
C02, layer 3: `Resolver.resolve` on the intercept-free fragment (`denT e = some d`), through the
case principle `denT_cases`: the value is a plain value whose de-duplicated term list is `d`
(`resolve_plain`), and nothing is refused when every exponent is ≥ 2 (`plain_total`).
-/
namespace FormulaeModel.Resolver
open FormulaeModel.Terms FormulaeModel.Spec.C02

/-- the documented operator map of `Resolver.visitBinaryExpr` (tied to the regenerated table in
Properties/C02.lean) -/
def docOps : OpTable :=
  [(.TILDE, .tilde), (.PLUS, .add), (.MINUS, .sub), (.STAR_STAR, .pow), (.COLON, .matmul),
   (.STAR, .mul), (.SLASH, .truediv), (.PIPE, .or_)]

theorem anySub_grouping (P : Expr → Bool) (l : Token) (e : Expr) (r : Token) :
    anySub P (.grouping l e r) = false ↔ P (.grouping l e r) = false ∧ anySub P e = false := by
  simp [anySub]

theorem anySub_binary (P : Expr → Bool) (l : Expr) (op : Token) (r : Expr) :
    anySub P (.binary l op r) = false ↔
      P (.binary l op r) = false ∧ anySub P l = false ∧ anySub P r = false := by
  simp [anySub, and_assoc]

def NoGap (e : Expr) : Prop :=
  gapD22 docOps e = false ∧ gapD24 docOps e = false ∧ gapD25 docOps e = false

theorem NoGap.grouping {l : Token} {e : Expr} {r : Token} (h : NoGap (.grouping l e r)) :
    NoGap e := by
  obtain ⟨h1, h2, h3⟩ := h
  exact ⟨((anySub_grouping _ _ _ _).1 h1).2, ((anySub_grouping _ _ _ _).1 h2).2,
    ((anySub_grouping _ _ _ _).1 h3).2⟩

theorem NoGap.left {l : Expr} {op : Token} {r : Expr} (h : NoGap (.binary l op r)) : NoGap l := by
  obtain ⟨h1, h2, h3⟩ := h
  exact ⟨((anySub_binary _ _ _ _).1 h1).2.1, ((anySub_binary _ _ _ _).1 h2).2.1,
    ((anySub_binary _ _ _ _).1 h3).2.1⟩

theorem NoGap.right {l : Expr} {op : Token} {r : Expr} (h : NoGap (.binary l op r)) : NoGap r := by
  obtain ⟨h1, h2, h3⟩ := h
  exact ⟨((anySub_binary _ _ _ _).1 h1).2.2, ((anySub_binary _ _ _ _).1 h2).2.2,
    ((anySub_binary _ _ _ _).1 h3).2.2⟩

theorem nodup_of_map {α β : Type} (f : α → β) {l : List α} (h : (l.map f).Nodup) : l.Nodup := by
  induction l with
  | nil => simp
  | cons a l ih =>
    simp only [List.map_cons, List.nodup_cons, List.mem_map, not_exists, not_and] at h
    exact List.nodup_cons.2 ⟨fun ha => h.1 a ha rfl, ih h.2⟩

/-- outside D24 a `Model` on the left of `-` holds no term twice -/
theorem NoGap.minus_model {l : Expr} {op : Token} {r : Expr} (h : NoGap (.binary l op r))
    (hk : op.kind = .MINUS) {m : ModelV} (hl : resolve docOps l = .ok (.model m)) :
    m.common.Nodup ∧ m.group.Nodup := by
  have h2 := ((anySub_binary _ _ _ _).1 h.2.1).1
  simp only [hk, hl, beq_self_eq_true, Bool.true_and, Bool.or_eq_false_iff,
    bne_eq_false_iff_eq] at h2
  exact ⟨nodup_of_dedup_length h2.1, nodup_of_dedup_length h2.2⟩

theorem NoGap.minus {l : Expr} {op : Token} {r : Expr} (h : NoGap (.binary l op r))
    (hk : op.kind = .MINUS) {p : PV} (hl : resolve docOps l = .ok p.toObj) : p.list.Nodup := by
  cases p with
  | t a => simp [PV.list]
  | m M => exact nodup_of_map _ (h.minus_model hk hl).1

/-- outside D25 the left operand of `**` holds no duplicate -/
theorem NoGap.starstar {l : Expr} {op : Token} {r : Expr} (h : NoGap (.binary l op r))
    (hk : op.kind = .STAR_STAR) {p : PV} (hl : resolve docOps l = .ok p.toObj) : p.list.Nodup := by
  have h2 := ((anySub_binary _ _ _ _).1 h.2.2).1
  cases p with
  | t a => simp [PV.list]
  | m M =>
    simp only [hk, hl, PV.toObj, beq_self_eq_true, Bool.true_and, bne_eq_false_iff_eq] at h2
    exact nodup_of_map _ (nodup_of_dedup_length h2)

/-- outside D22 the `self == other` shortcut of `Model.__mul__` is harmless -/
theorem NoGap.star {l : Expr} {op : Token} {r : Expr} (h : NoGap (.binary l op r))
    (hk : op.kind = .STAR) {p q : PV} (hl : resolve docOps l = .ok p.toObj)
    (hr : resolve docOps r = .ok q.toObj) : NoD22 p q := by
  have h2 := ((anySub_binary _ _ _ _).1 h.1).1
  cases p with
  | t a => cases q <;> trivial
  | m M =>
    cases q with
    | t b => trivial
    | m O =>
      intro hs
      simp only [hk, hl, hr, PV.toObj, beq_self_eq_true, Bool.true_and, modelEq_plain, hs,
        plainM_common, nub, dedup_map_of_injective _ term_inj, List.length_map,
        decide_eq_false_iff_not, Nat.not_le] at h2
      omega

theorem resolve_binary_ok {l : Expr} {op : Token} {r : Expr} {v : Obj} {o : Op}
    (ho : lookupOp docOps op.kind = some o) (hr : resolve docOps (.binary l op r) = .ok v) :
    ∃ lv rv, resolve docOps l = .ok lv ∧ resolve docOps r = .ok rv ∧ apply o lv rv = .ok v := by
  simp only [resolve, ho] at hr
  obtain ⟨lv, hl, hr⟩ := of_bind_ok hr
  obtain ⟨rv, hrr, hr⟩ := of_bind_ok hr
  exact ⟨lv, rv, hl, hrr, hr⟩

/-! Integer literals: a digit string of value ≥ 2 is neither `0`, nor `1`, nor a float. -/

/-- one step of `digitsVal`, named so that the step on a concrete character can be evaluated -/
def dstep (n : Nat) (c : Char) : Nat := 10 * n + (c.toNat - '0'.toNat)

theorem digitsVal_eq (l : List Char) : digitsVal l = l.foldl dstep 0 := rfl

theorem digitsVal_zeros (l : List Char) (h : l.all (· == '0') = true) : digitsVal l = 0 := by
  rw [digitsVal_eq]
  induction l with
  | nil => rfl
  | cons c l ih =>
    simp only [List.all_cons, Bool.and_eq_true, beq_iff_eq] at h
    obtain ⟨rfl, h⟩ := h
    simp only [List.foldl_cons]
    have : dstep 0 '0' = 0 := by decide
    rw [this]
    exact ih h

theorem digitsVal_dropZeros (l : List Char) : digitsVal (l.dropWhile (· == '0')) = digitsVal l := by
  rw [digitsVal_eq, digitsVal_eq]
  induction l with
  | nil => rfl
  | cons c l ih =>
    by_cases hc : c = '0'
    · subst hc
      simp only [List.dropWhile_cons, beq_self_eq_true, if_true, List.foldl_cons]
      have : dstep 0 '0' = 0 := by decide
      rw [this]
      exact ih
    · have : (c == '0') = false := by simpa using hc
      simp [this]

theorem ne_dot_of_digits {l : List Char} (h : l.all Char.isDigit = true) :
    ∀ c ∈ l, (c != '.') = true := by
  intro c hc
  have := List.all_eq_true.1 h c hc
  have hne : c ≠ '.' := by
    intro e; subst e; exact absurd this (by decide)
  simpa using hne

theorem not_float_of_digits (s : String) (h : s.toList.all Char.isDigit = true) :
    isFloatLexeme s = false := by
  unfold isFloatLexeme
  rw [Bool.eq_false_iff]
  intro hc
  simpa using ne_dot_of_digits h '.' (by simpa using hc)

theorem not_zero_of_val (s : String) (h : s.toList.all Char.isDigit = true)
    (hv : digitsVal s.toList ≥ 2) : numIsZero s = false := by
  rw [Bool.eq_false_iff]
  intro hz
  unfold numIsZero allZero at hz
  rw [List.filter_eq_self.2 (ne_dot_of_digits h)] at hz
  have := digitsVal_zeros _ hz
  omega

theorem not_one_of_val (s : String) (h : s.toList.all Char.isDigit = true)
    (hv : digitsVal s.toList ≥ 2) : numIsOne s = false := by
  rw [Bool.eq_false_iff]
  intro hz
  unfold numIsOne at hz
  have hsp : s.toList.span (· != '.') = (s.toList, []) :=
    Scanner.span_all _ _ (ne_dot_of_digits h)
  simp only [hsp, Bool.and_eq_true, beq_iff_eq] at hz
  have h1 := hz.1
  unfold stripLeadingZeros at h1
  have hdv := digitsVal_dropZeros s.toList
  split at h1
  · simp at h1
  · rename_i r hr
    rw [h1] at hdv
    have : digitsVal ['1'] = 1 := by decide
    omega

/-- `Resolver.visitLiteralExpr` on a NUMBER token made of digits -/
theorem resolve_nat_literal {t : Token} {n : Nat} (hk : t.kind = .NUMBER)
    (hn : natOfLexeme t.lexeme = some n) :
    ∃ c, resolve docOps (.literal t) = .ok (.c c) ∧
      (c = .term [.var (.int (n : Int)) none] ∨
        n < 2 ∧ (c = .intercept ∨ c = .negIntercept)) := by
  unfold natOfLexeme at hn
  split at hn
  · rename_i h
    injection hn with hn
    subst hn
    simp only [resolve, hk, not_float_of_digits _ h, Bool.false_eq_true, if_false, pure, Except.pure,
      Int.ofNat_eq_natCast]
    by_cases hv : digitsVal t.lexeme.toList ≥ 2
    · exact ⟨_, by rw [not_zero_of_val _ h hv, not_one_of_val _ h hv]; rfl, Or.inl rfl⟩
    · split
      · exact ⟨_, rfl, Or.inr ⟨by omega, Or.inr rfl⟩⟩
      · split
        · exact ⟨_, rfl, Or.inr ⟨by omega, Or.inl rfl⟩⟩
        · exact ⟨_, rfl, Or.inl rfl⟩
  · cases hn

theorem callAtom_nonNum {c : Expr} {as : Args} {a : Atom} (h : callAtom c as = .ok a) :
    a.isNumericName = false := by
  unfold callAtom at h
  simp only [bind, Except.bind, pure, Except.pure] at h
  split at h
  · simp at h
  · split at h
    · simp at h
    · injection h with h
      subst h
      rfl

theorem atom_resolve {e : Expr} {a : Atom} (ha : atomOf e = some a) :
    resolve docOps e = .ok (.c (.term [a])) ∧ a.isNumericName = false := by
  cases e with
  | «variable» n => injection ha with ha; subst ha; exact ⟨rfl, rfl⟩
  | quoted t => injection ha with ha; subst ha; exact ⟨rfl, rfl⟩
  | call c lp as rp =>
    simp only [atomOf] at ha
    cases hc : callAtom c as with
    | error er => simp [hc, Except.toOption] at ha
    | ok a' =>
      simp only [hc, Except.toOption, Option.some.injEq] at ha
      subst ha
      exact ⟨by simp only [resolve, hc, bind, Except.bind]; rfl, callAtom_nonNum hc⟩
  | brace lb e rb =>
    simp only [atomOf] at ha
    cases hc : noKw (lazyArg (.brace lb e rb)) with
    | error er => simp [hc] at ha
    | ok p =>
      simp only [hc, Option.some.injEq] at ha
      subst ha
      exact ⟨by simp only [resolve, hc, bind, Except.bind]; rfl, rfl⟩
  | _ => simp [atomOf] at ha

/-- token kind, operator of the resolver, set operation of the denotation, closed form -/
inductive BinDen : Kind → Op → (List STerm → List STerm → List STerm) → (PV → PV → PV) → Prop
  | add : BinDen .PLUS .add union padd
  | sub : BinDen .MINUS .sub diff psub
  | matmul : BinDen .COLON .matmul interS pmatmul
  | mul : BinDen .STAR .mul (fun a b => union (union a b) (interS a b)) pmul
  | div : BinDen .SLASH .truediv
      (fun a b => union a (nub (b.map (fun y => interT (dedup a.flatten) y)))) pdiv

theorem denT_cases {P : Expr → List STerm → Prop}
    (grouping : ∀ l e r d, P e d → P (.grouping l e r) d)
    (binary : ∀ l op r a b o f pop, BinDen op.kind o f pop → denT l = some a → denT r = some b →
      P l a → P r b → P (.binary l op r) (f a b))
    (pow : ∀ l op t a n, op.kind = .STAR_STAR → t.kind = .NUMBER → natOfLexeme t.lexeme = some n →
      n ≥ 1 → denT l = some a → P l a →
      P (.binary l op (.literal t)) (union a (nub ((combsUpTo a n).map (fun ts => dedup ts.flatten)))))
    (atom : ∀ e a, atomOf e = some a → P e [[a]]) :
    ∀ e d, denT e = some d → P e d := by
  intro e
  -- the cases of `denT.induct`: 1 a grouping, 2–6 the operators of `BinDen` in its order, 7 `**`,
  -- 8 any other operator, 9 neither a grouping nor a binary expression
  induction e using denT.induct with
  | case1 lp e rp ih =>
    intro d hd
    exact grouping _ _ _ _ (ih d (by simpa only [denT] using hd))
  | case2 l op r hk ihl ihr | case3 l op r hk ihl ihr | case4 l op r hk ihl ihr
  | case5 l op r hk ihl ihr | case6 l op r hk ihl ihr =>
    intro d hd
    simp only [denT, hk] at hd
    obtain ⟨a, ha, hd⟩ := Option.bind_eq_some_iff.1 hd
    obtain ⟨b, hb, hd⟩ := Option.bind_eq_some_iff.1 hd
    injection hd with hd
    subst hd
    exact binary l op r a b _ _ _ (by rw [hk]; constructor) ha hb (ihl a ha) (ihr b hb)
  | case7 l op r hk ihl =>
    intro d hd
    simp only [denT, hk] at hd
    obtain ⟨a, ha, hd⟩ := Option.bind_eq_some_iff.1 hd
    cases r with
    | literal t =>
      simp only at hd
      split at hd
      · rename_i n hn
        split at hd
        · rename_i h1
          injection hd with hd
          subst hd
          refine pow l op t a n hk ?_ ?_ h1 ha (ihl a ha)
          · by_cases hkind : t.kind = .NUMBER
            · exact hkind
            · simp [hkind] at hn
          · by_cases hkind : t.kind = .NUMBER
            · simpa [hkind] using hn
            · simp [hkind] at hn
        · cases hd
      · cases hd
    | _ => cases hd
  | case8 l op r =>
    intro d hd
    simp only [denT] at hd
    exact absurd hd (by simp)
  | case9 e h1 h2 =>
    intro d hd
    cases e with
    | grouping lp e rp => exact (h1 _ _ _ rfl).elim
    | binary l op r => exact (h2 _ _ _ rfl).elim
    | _ =>
      simp only [denT, Option.map_eq_some_iff] at hd
      obtain ⟨a, ha, rfl⟩ := hd
      exact atom _ a ha

theorem BinDen.lookup {k o f pop} (h : BinDen k o f pop) : lookupOp docOps k = some o := by
  cases h <;> rfl

theorem BinDen.ne_pow {k o f pop} (h : BinDen k o f pop) : (k == .STAR_STAR) = false := by
  cases h <;> rfl

theorem BinDen.apply {k o f pop} (h : BinDen k o f pop) {p q : PV} (hq : Good q) :
    apply o p.toObj q.toObj = .ok (pop p q).toObj := by
  cases h with
  | add => exact add_plain p q
  | sub => exact sub_plain p q
  | matmul => exact matmul_plain p q hq.nonNum
  | mul => exact mul_plain p q hq.nonNum
  | div => exact div_plain p q hq.nonNum

theorem BinDen.good {k o f pop} (h : BinDen k o f pop) {p q : PV} (hp : Good p) (hq : Good q) :
    Good (pop p q) := by
  cases h with
  | add => exact good_padd hp hq
  | sub => exact good_psub hp
  | matmul => exact good_pmatmul hp hq
  | mul => exact good_pmul hp hq
  | div => exact good_pdiv hp hq

theorem BinDen.spec {l r : Expr} {op : Token} {o f pop} (h : BinDen op.kind o f pop) {p q : PV}
    (hp : Good p) (hl : resolve docOps l = .ok p.toObj) (hr : resolve docOps r = .ok q.toObj)
    (hng : NoGap (.binary l op r)) :
    dedup (pop p q).list = f (dedup p.list) (dedup q.list) := by
  generalize hk : op.kind = k at h
  cases h with
  | add => exact spec_padd p q
  | sub => exact spec_psub p q (hng.minus hk hl)
  | matmul => exact spec_pmatmul p q hp
  | mul => exact spec_pmul p q hp (hng.star hk hl hr)
  | div => exact spec_pdiv p q hp

theorem good_atom {a : Atom} (h : a.isNumericName = false) : Good (.t [a]) := by
  intro t ht
  simp only [PV.list, List.mem_cons, List.not_mem_nil, or_false] at ht
  subst ht
  refine ⟨by simp, ?_⟩
  intro x hx
  simp only [List.mem_cons, List.not_mem_nil, or_false] at hx
  subst hx
  exact h

theorem resolve_plain {e : Expr} {d : List STerm} (hd : denT e = some d) :
    ∀ {v : Obj}, resolve docOps e = .ok v →
      ∃ p : PV, v = p.toObj ∧ Good p ∧ (NoGap e → dedup p.list = d) := by
  refine denT_cases (P := fun e d => ∀ {v : Obj}, resolve docOps e = .ok v →
      ∃ p : PV, v = p.toObj ∧ Good p ∧ (NoGap e → dedup p.list = d)) ?_ ?_ ?_ ?_ e d hd
  · intro lp e rp d ih v hr
    obtain ⟨p, hv, hg, hs⟩ := ih (by simpa only [resolve] using hr)
    exact ⟨p, hv, hg, fun h => hs h.grouping⟩
  · intro l op r a b o f pop hb _ _ ihl ihr v hr
    obtain ⟨lv, rv, hl, hrr, hv⟩ := resolve_binary_ok hb.lookup hr
    obtain ⟨p, rfl, hgp, hsp⟩ := ihl hl
    obtain ⟨q, rfl, hgq, hsq⟩ := ihr hrr
    rw [hb.apply hgq] at hv
    injection hv with hv
    refine ⟨pop p q, hv.symm, hb.good hgp hgq, fun hng => ?_⟩
    rw [hb.spec hgp hl hrr hng, hsp hng.left, hsq hng.right]
  · intro l op t a n hk hkind hn h1 _ ihl v hr
    obtain ⟨lv, rv, hl, hrr, hv⟩ := resolve_binary_ok (o := .pow) (by rw [hk]; rfl) hr
    obtain ⟨p, rfl, hgp, hsp⟩ := ihl hl
    obtain ⟨c, hc, hcn⟩ := resolve_nat_literal hkind hn
    rw [hc] at hrr
    injection hrr with hrr
    subst hrr
    rcases hcn with rfl | ⟨_, rfl | rfl⟩
    · simp only [apply] at hv
      rw [pow_plain p n none h1] at hv
      injection hv with hv
      refine ⟨_, hv.symm, good_ppow hgp _, fun hng => ?_⟩
      rw [spec_ppow p _ (hng.starstar hk hl), hsp hng.left]
    · cases p <;> cases hv
    · cases p <;> cases hv
  · intro e a ha v hr
    obtain ⟨h1, h2⟩ := atom_resolve ha
    rw [h1] at hr
    injection hr with hr
    exact ⟨.t [a], hr.symm, good_atom h2, fun _ => by simp [PV.list]⟩

theorem plain_total {e : Expr} {d : List STerm} (hd : denT e = some d) :
    expGe2 e = true → ∃ v, resolve docOps e = .ok v := by
  refine denT_cases (P := fun e _ => expGe2 e = true → ∃ v, resolve docOps e = .ok v)
    ?_ ?_ ?_ ?_ e d hd
  · intro lp e rp d ih he
    simpa only [resolve] using ih (by simpa only [expGe2] using he)
  · intro l op r a b o f pop hb ha hdb ihl ihr he
    simp only [expGe2, hb.ne_pow, Bool.false_eq_true, if_false, Bool.and_eq_true] at he
    obtain ⟨lv, hl⟩ := ihl he.1
    obtain ⟨rv, hr⟩ := ihr he.2
    obtain ⟨p, rfl, _, _⟩ := resolve_plain ha hl
    obtain ⟨q, rfl, hgq, _⟩ := resolve_plain hdb hr
    exact ⟨(pop p q).toObj, by simp only [resolve, hb.lookup, hl, hr, bind, Except.bind, hb.apply hgq]⟩
  · intro l op t a n hk hkind hn _ ha ihl he
    simp only [expGe2, hk, beq_self_eq_true, if_true, Bool.and_eq_true, hn, decide_eq_true_eq] at he
    obtain ⟨lv, hl⟩ := ihl he.1
    obtain ⟨p, rfl, _, _⟩ := resolve_plain ha hl
    obtain ⟨c, hc, hcn⟩ := resolve_nat_literal hkind hn
    have hc' : c = .term [.var (.int (n : Int)) none] := by
      rcases hcn with h | ⟨h, _⟩
      · exact h
      · omega
    subst hc'
    have ho : lookupOp docOps op.kind = some .pow := by rw [hk]; rfl
    simp only [resolve] at hc
    exact ⟨(ppow p n).toObj, by
      simp only [resolve, ho, hl, hc, bind, Except.bind, apply]; exact pow_plain p n none (by omega)⟩
  · intro e a ha _
    exact ⟨_, (atom_resolve ha).1⟩

theorem expGe2_of_noD5 {e : Expr} {d : List STerm} (hd : denT e = some d) :
    gapD5 e = false → expGe2 e = true := by
  unfold gapD5
  refine denT_cases (P := fun e _ => anySub _ e = false → expGe2 e = true) ?_ ?_ ?_ ?_ e d hd
  · intro lp e rp d ih hg
    simpa only [expGe2] using ih ((anySub_grouping _ _ _ _).1 hg).2
  · intro l op r a b o f pop hb _ _ ihl ihr hg
    have hg' := (anySub_binary _ _ _ _).1 hg
    simp only [expGe2, hb.ne_pow, Bool.false_eq_true, if_false, Bool.and_eq_true]
    exact ⟨ihl hg'.2.1, ihr hg'.2.2⟩
  · intro l op t a n hk hkind hn h1 _ ihl hg
    have hg' := (anySub_binary _ _ _ _).1 hg
    have h2 := hg'.1
    simp only [hk, beq_self_eq_true, Bool.true_and, Bool.or_eq_false_iff, isOneLit, hkind, hn,
      beq_eq_false_iff_ne, ne_eq,
      Option.some.injEq] at h2
    simp only [expGe2, hk, beq_self_eq_true, if_true, Bool.and_eq_true, hn, decide_eq_true_eq]
    exact ⟨ihl hg'.2.1, by omega⟩
  · intro e a ha _
    cases e <;> first | rfl | simp [atomOf] at ha

theorem termsOf_toObj (p : PV) : termsOf p.toObj = p.list := by
  cases p with
  | t a => rfl
  | m M =>
    simp only [PV.toObj, termsOf, plainM_common, PV.list]
    induction M with
    | nil => rfl
    | cons a M ih => simp [ih]

theorem isPlainValue_toObj (p : PV) : isPlainValue p.toObj = true := by
  cases p with
  | t a => rfl
  | m M => simp [PV.toObj, isPlainValue, plainM_common, plainM_group, plainM_resp]

end FormulaeModel.Resolver
