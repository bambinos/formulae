import FormulaeModel.Proofs.TransformsPoly
import FormulaeModel.Proofs.TransformsDistinct
/-
The Spec predicates on `poly`'s output: `rawPowers` of the raw columns, `orthoExact` of the
columns `P_k(x)` paired with `norms2_k`.
-/
namespace FormulaeModel.Transforms.Poly
open FormulaeModel.Transforms FormulaeModel.Transforms.Ortho

theorem dot_map (x : List Rat) (f g : Rat → Rat) :
    Spec.C14.dot (x.map f) (x.map g) = ip x f g := by
  unfold Spec.C14.dot ip
  rw [sum_eq_spec]
  congr 1
  induction x with
  | nil => rfl
  | cons a l ih => simp [ih]

theorem orthogonal_ne (x : List Rat) (D : Nat) (hN : ∀ j < D, norm2 x j ≠ 0) (j k : Nat)
    (hj : j ≤ D) (hk : k ≤ D) (hjk : j ≠ k) : ip x (p x k) (p x j) = 0 := by
  rcases Nat.lt_or_gt_of_ne hjk with h | h
  · exact orthogonal x D hN k hk j h
  · rw [ip_comm]; exact orthogonal x D hN j hj k h

theorem orthoExact_of (x : List Rat) (D : Nat) (hN : ∀ j ≤ D, norm2 x j ≠ 0) :
    ∀ ks : List Nat, ks.Nodup → (∀ k ∈ ks, 1 ≤ k ∧ k ≤ D) →
      Spec.C14.orthoExact (ks.map (fun k => (x.map (p x k), norm2 x k))) = true := by
  intro ks
  induction ks with
  | nil => intro _ _; rfl
  | cons k ks ih =>
    intro hnd hr
    rw [List.nodup_cons] at hnd
    have hk := hr k (by simp)
    simp only [List.map_cons, Spec.C14.orthoExact, Bool.and_eq_true, decide_eq_true_eq,
      List.all_eq_true]
    refine ⟨⟨⟨⟨?_, ?_⟩, ?_⟩, ?_⟩, ih hnd.2 (fun k' hk' => hr k' (by simp [hk']))⟩
    · exact norm2_pos x k (hN k hk.2)
    · rw [dot_map]; rfl
    · rw [sum_eq_spec]
      exact orthogonal_const x D (fun j hj => hN j (by omega)) k hk.2 hk.1
    · intro d hd
      obtain ⟨k', hk', rfl⟩ := List.mem_map.mp hd
      simp only
      rw [dot_map, ip_comm]
      have hne : k ≠ k' := fun h => hnd.1 (h ▸ hk')
      exact orthogonal_ne x D (fun j hj => hN j (by omega)) k k' hk.2 (hr k' (by simp [hk'])).2 hne

/-- as `sum_eq_spec`: the Spec's own power function is the model's -/
theorem pow_eq_powR (v : Rat) (k : Nat) : pow v k = Spec.C14.powR v k := by
  induction k with
  | zero => rfl
  | succ k ih => rw [pow, Spec.C14.powR, ih]

theorem rawPowersFrom_range' (x : List Rat) : ∀ n k, Spec.C14.rawPowersFrom x k
    ((List.range' k n).map (fun j => x.map (fun v => pow v j))) = true := by
  intro n
  induction n with
  | zero => intro k; rfl
  | succ n ih =>
    intro k
    simp only [List.range'_succ, List.map_cons, Spec.C14.rawPowersFrom, Bool.and_eq_true,
      decide_eq_true_eq, pow_eq_powR]
    exact ⟨trivial, by simpa only [pow_eq_powR] using ih (k + 1)⟩

theorem rawCols_powers (x : List Rat) (d : Nat) :
    ∃ cols, rawCols x (d + 1) = .ok cols ∧ Spec.C14.rawPowers x (d + 1) cols = true := by
  refine ⟨_, rfl, ?_⟩
  rw [Spec.C14.rawPowers, range1_eq_range', List.length_map, List.length_range', beq_self_eq_true,
    Bool.true_and]
  exact rawPowersFrom_range' x (d + 1) 1

theorem nodup_range' (s n : Nat) : (List.range' s n).Nodup := List.nodup_range' (step := 1) (by omega)

theorem mem_range'_1 (D k : Nat) (h : k ∈ List.range' 1 D) : 1 ≤ k ∧ k ≤ D := by
  rw [List.mem_range'_1] at h; omega

end FormulaeModel.Transforms.Poly
