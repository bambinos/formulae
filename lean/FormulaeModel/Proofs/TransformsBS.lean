import FormulaeModel.Proofs.TransformsBasic
/-
BSpline: the sorted, clamped knot vector; the stages of `_initialize` and what an accepted call
guarantees; acceptance is `Spec.C14.validBsArgs`; every refusal is a ValueError.
-/
namespace FormulaeModel.Transforms
open Spec.C14 (allInside validBsArgs)

theorem perm_insertSorted (a : Rat) (l : List Rat) : (insertSorted a l).Perm (a :: l) := by
  induction l with
  | nil => exact .refl _
  | cons b l ih =>
    simp only [insertSorted]
    split
    · exact .refl _
    · exact (ih.cons b).trans (.swap a b l)

theorem perm_sort (l : List Rat) : (sort l).Perm l := by
  induction l with
  | nil => exact .refl _
  | cons a l ih => exact (perm_insertSorted a _).trans (ih.cons a)

theorem length_sort (l : List Rat) : (sort l).length = l.length := (perm_sort l).length_eq

theorem mem_sort (b : Rat) (l : List Rat) : b ∈ sort l ↔ b ∈ l := (perm_sort l).mem_iff

theorem pairwise_insertSorted (a : Rat) (l : List Rat) (h : l.Pairwise (· ≤ ·)) :
    (insertSorted a l).Pairwise (· ≤ ·) := by
  induction l with
  | nil => exact List.pairwise_singleton _ _
  | cons b l ih =>
    rw [List.pairwise_cons] at h
    simp only [insertSorted]
    split
    · rename_i hab
      exact List.pairwise_cons.mpr
        ⟨List.forall_mem_cons.mpr ⟨hab, fun c hc => le_trans hab (h.1 c hc)⟩, List.pairwise_cons.mpr h⟩
    · rename_i hab
      refine List.pairwise_cons.mpr ⟨fun c hc => ?_, ih h.2⟩
      rcases List.mem_cons.mp ((perm_insertSorted a l).mem_iff.mp hc) with rfl | hc
      · exact le_of_lt (not_le.mp hab)
      · exact h.1 c hc

theorem pairwise_sort (l : List Rat) : (sort l).Pairwise (· ≤ ·) := by
  induction l with
  | nil => exact .nil
  | cons a l ih => exact pairwise_insertSorted a _ ih

theorem perm_replicate2 (lo hi : Rat) (n : Nat) :
    (replicate2 lo hi n).Perm (List.replicate n lo ++ List.replicate n hi) := by
  induction n with
  | zero => exact .refl _
  | succ n ih => exact ((ih.cons hi).trans List.perm_middle.symm).cons lo

theorem sort_knots {lo hi : Rat} {inner : List Rat} (o : Nat) (hle : lo ≤ hi)
    (hin : ∀ k ∈ inner, lo ≤ k ∧ k ≤ hi) :
    sort (replicate2 lo hi o ++ inner)
      = List.replicate o lo ++ (sort inner ++ List.replicate o hi) := by
  have hrep : ∀ (c : Rat) (n : Nat), (List.replicate n c).Pairwise (· ≤ ·) :=
    fun c n => List.pairwise_replicate.mpr (Or.inr (le_refl c))
  apply List.Perm.eq_of_pairwise (fun a b _ _ => le_antisymm) (pairwise_sort _)
  · refine List.pairwise_append.mpr ⟨hrep _ _, List.pairwise_append.mpr ⟨pairwise_sort _, hrep _ _, ?_⟩, ?_⟩
    · intro a ha b hb
      rw [List.eq_of_mem_replicate hb]
      exact (hin a ((mem_sort a inner).mp ha)).2
    · intro a ha b hb
      rw [List.eq_of_mem_replicate ha]
      rcases List.mem_append.mp hb with hb | hb
      · exact (hin b ((mem_sort b inner).mp hb)).1
      · rw [List.eq_of_mem_replicate hb]; exact hle
  · refine (perm_sort _).trans (((perm_replicate2 lo hi o).append_right inner).trans ?_)
    rw [List.append_assoc]
    exact (List.perm_append_comm.trans ((perm_sort inner).symm.append_right _)).append_left _

theorem tk_replicate_append (c : Rat) (r : List Rat) {n i : Nat} (h : i < n) :
    tk (List.replicate n c ++ r) i = c := by
  rw [tk, List.getD_eq_getElem?_getD, List.getElem?_append_left (by simpa using h),
    List.getElem?_replicate, if_pos h]
  rfl

theorem tk_append_replicate (c : Rat) (l : List Rat) {n : Nat} (h : 0 < n) :
    tk (l ++ List.replicate n c) l.length = c := by
  rw [tk, List.getD_eq_getElem?_getD, List.getElem?_append_right (le_refl _), Nat.sub_self,
    List.getElem?_replicate, if_pos h]
  rfl

theorem innerFromData_length {x : List Rat} {m : Nat} {l : List Rat}
    (h : innerFromData x m = .ok l) : l.length = m := by
  unfold innerFromData at h
  split at h
  · cases h
  · injection h with h
    rw [← h, List.length_map, range1_eq_range', List.length_range']

theorem checkDegree_ok {a : DegArg} {d : Nat} (h : checkDegree a = .ok d) :
    ∃ z : Int, a = .int z ∧ 0 ≤ z ∧ d = z.toNat := by
  unfold checkDegree at h
  split at h
  · cases h
  · rename_i z
    split at h
    · cases h
    · injection h with h
      exact ⟨z, rfl, not_lt.mp ‹_›, h.symm⟩

theorem innerCount_ok {d : Int} {order : Nat} {icpt : Bool} {n : Nat}
    (h : innerCount d order icpt = .ok n) :
    (n : Int) = d - (order : Int) + (if icpt then 0 else 1) := by
  generalize hN : d - (order : Int) + (if icpt then 0 else 1) = N
  simp only [innerCount, hN] at h
  split at h
  · cases h
  · injection h with h
    rw [← h, Int.toNat_of_nonneg (not_lt.mp ‹_›)]

/-- the inner knots `_initialize` goes on with: `knots` if given (1-d), else the `df` block's quantiles -/
def innerArg : KnotsArg → Option (List Rat) → Option (List Rat)
  | .nested _, _ => none
  | .vec l, _ => some l
  | .none, fd => fd

theorem dfBranch_int_length {x : List Rat} {f : Int} {k : KnotsArg} {o : Nat} {i : Bool}
    {fd : Option (List Rat)} {inner : List Rat} (h : dfBranch x (.int f) k o i = .ok fd)
    (hin : innerArg k fd = some inner) :
    (inner.length : Int) = f - (o : Int) + (if i then 0 else 1) := by
  simp only [dfBranch, dfValue] at h
  split at h
  · cases h
  · rename_i n hn
    rw [← innerCount_ok hn]
    cases k with
    | nested m => cases hin
    | vec l =>
      injection hin with hin
      simp only [knotsLen] at h
      split at h
      · cases h
      · rw [← hin, Nat.cast_inj]; exact not_not.mp ‹_›
    | none =>
      simp only [knotsLen, Bool.false_eq_true, if_false] at h
      split at h
      · cases h
      · rename_i l hl
        injection h with h
        rw [← h] at hin
        injection hin with hin
        rw [← hin, innerFromData_length hl]

theorem allInside_iff {lo hi : Rat} {l : List Rat} :
    allInside lo hi l = true ↔ ∀ k ∈ l, lo ≤ k ∧ k ≤ hi := by
  simp only [allInside, List.all_eq_true, Bool.and_eq_true, decide_eq_true_eq]

/-- `finishKnots` in one piece: the three refusals are the negation of one condition -/
theorem finishKnots_eq (lo hi : Rat) (k : KnotsArg) (fd : Option (List Rat)) (o : Nat) :
    finishKnots lo hi k fd o =
      match innerArg k fd with
      | some inner =>
        if decide (lo ≤ hi) && allInside lo hi inner then .ok (sort (replicate2 lo hi o ++ inner))
        else .error .value
      | none => .error .value := by
  have key : ∀ inner : List Rat,
      (if hi < lo then Except.error Err.value
        else if inner.any (fun k => k < lo) then .error .value
        else if inner.any (fun k => hi < k) then .error .value
        else .ok (sort (replicate2 lo hi o ++ inner)))
      = if decide (lo ≤ hi) && allInside lo hi inner then .ok (sort (replicate2 lo hi o ++ inner))
        else .error .value := by
    intro inner
    simp only [Bool.and_eq_true, decide_eq_true_eq, allInside_iff]
    by_cases hlu : hi < lo
    · rw [if_pos hlu, if_neg (fun h => absurd h.1 (not_le.mpr hlu))]
    · rw [if_neg hlu]
      by_cases h1 : inner.any (fun k => decide (k < lo)) = true
      · obtain ⟨v, hv, hlt⟩ := List.any_eq_true.mp h1
        rw [if_pos h1, if_neg fun h => absurd (h.2 v hv).1 (not_le.mpr (of_decide_eq_true hlt))]
      · rw [if_neg h1]
        by_cases h2 : inner.any (fun k => decide (hi < k)) = true
        · obtain ⟨v, hv, hlt⟩ := List.any_eq_true.mp h2
          rw [if_pos h2, if_neg fun h => absurd (h.2 v hv).2 (not_le.mpr (of_decide_eq_true hlt))]
        · rw [if_neg h2, if_pos]
          refine ⟨not_lt.mp hlu, fun v hv => ⟨?_, ?_⟩⟩
          · exact not_lt.mp fun h => h1 (List.any_eq_true.mpr ⟨v, hv, decide_eq_true h⟩)
          · exact not_lt.mp fun h => h2 (List.any_eq_true.mpr ⟨v, hv, decide_eq_true h⟩)
  -- without inner knots both sides are a ValueError, whether or not `upper < lower`
  unfold finishKnots
  cases k with
  | vec l => exact key l
  | nested n => simp only [innerArg]; split <;> rfl
  | none =>
    cases fd with
    | some l => exact key l
    | none => simp only [innerArg]; split <;> rfl

theorem finishKnots_ok {lower upper : Rat} {knots : KnotsArg} {fromDf : Option (List Rat)}
    {order : Nat} {t : List Rat} (h : finishKnots lower upper knots fromDf order = .ok t) :
    lower ≤ upper ∧ ∃ inner, innerArg knots fromDf = some inner ∧
      (∀ k ∈ inner, lower ≤ k ∧ k ≤ upper) ∧
      t = sort (replicate2 lower upper order ++ inner) := by
  rw [finishKnots_eq] at h
  split at h
  · rename_i inner hin
    split at h
    · rename_i hc
      injection h with h
      rw [Bool.and_eq_true, decide_eq_true_eq, allInside_iff] at hc
      exact ⟨hc.1, inner, hin, hc.2, h.symm⟩
    · cases h
  · cases h

theorem boundOr_ok {g d : Option Rat} {b : Rat} (h : boundOr g d = .ok b) :
    g = some b ∨ (g = none ∧ d = some b) := by
  unfold boundOr at h
  split at h
  · injection h with h; left; rw [h]
  · split at h
    · injection h with h; right; exact ⟨rfl, by rw [h]⟩
    · cases h

/-- Everything an accepted `_initialize` guarantees, stage by stage. -/
structure BsAccepted (x : List Rat) (a : BsArgs) (p : BsParams) where
  z : Int
  fromDf : Option (List Rat)
  lower : Rat
  upper : Rat
  inner : List Rat
  hdeg : a.degree = .int z
  hz : 0 ≤ z
  hpdeg : p.degree = z.toNat
  hicpt : p.intercept = a.intercept
  hdfty : checkDfType a.df = .ok ()
  hdf : dfBranch x a.df a.knots (p.degree + 1) a.intercept = .ok fromDf
  hlo : boundOr a.lower (min? x) = .ok lower
  hhi : boundOr a.upper (max? x) = .ok upper
  hle : lower ≤ upper
  hinner : innerArg a.knots fromDf = some inner
  hin : ∀ k ∈ inner, lower ≤ k ∧ k ≤ upper
  hknots : p.knots = sort (replicate2 lower upper (p.degree + 1) ++ inner)

theorem bsInitialize_ok {x : List Rat} {a : BsArgs} {p : BsParams}
    (h : bsInitialize x a = .ok p) : Nonempty (BsAccepted x a p) := by
  unfold bsInitialize at h
  split at h
  · cases h
  rename_i degree hd
  split at h
  · cases h
  split at h
  · cases h
  rename_i ht
  split at h
  · cases h
  rename_i fromDf hdf
  split at h
  · cases h
  rename_i lower hlo
  split at h
  · cases h
  rename_i upper hhi
  unfold bsFinish at h
  split at h
  · cases h
  rename_i t hfin
  injection h with h
  obtain ⟨z, hz1, hz2, hz3⟩ := checkDegree_ok hd
  obtain ⟨hle, inner, hinner, hin, hk⟩ := finishKnots_ok hfin
  subst h
  exact ⟨⟨z, fromDf, lower, upper, inner, hz1, hz2, hz3, rfl, ht, hdf, hlo, hhi, hle, hinner,
    hin, hk⟩⟩

theorem BsAccepted.knots_eq {x a p} (A : BsAccepted x a p) :
    p.knots = List.replicate (p.degree + 1) A.lower
      ++ (sort A.inner ++ List.replicate (p.degree + 1) A.upper) := by
  rw [A.hknots, sort_knots _ A.hle A.hin]

theorem BsAccepted.knots_length {x a p} (A : BsAccepted x a p) :
    p.knots.length = 2 * (p.degree + 1) + A.inner.length := by
  rw [A.knots_eq, List.length_append, List.length_append, List.length_replicate, length_sort,
    List.length_replicate]
  omega

theorem BsAccepted.nCols {x a p} (A : BsAccepted x a p) :
    bsNCols p = A.inner.length + p.degree + (if p.intercept then 1 else 0) := by
  unfold bsNCols nBases
  rw [A.knots_length]
  split <;> omega

theorem BsAccepted.inner_length_df {x a p} (A : BsAccepted x a p) {f : Int} (hf : a.df = .int f) :
    (A.inner.length : Int) = f - ((p.degree : Int) + 1) + (if a.intercept then 0 else 1) :=
  dfBranch_int_length (hf ▸ A.hdf) A.hinner

theorem BsAccepted.nCols_df {x a p} (A : BsAccepted x a p) {f : Int} (hf : a.df = .int f) :
    (bsNCols p : Int) = f := by
  have hl := A.inner_length_df hf
  rw [← A.hicpt] at hl
  rw [A.nCols]
  cases hi : p.intercept <;> simp only [hi, Bool.false_eq_true, if_false, if_true] at hl ⊢ <;> omega

theorem BsAccepted.clamped {x a p} (A : BsAccepted x a p) :
    p.knots.Pairwise (· ≤ ·) ∧ 2 * (p.degree + 1) ≤ p.knots.length ∧
    tk p.knots p.degree = A.lower ∧ tk p.knots (p.knots.length - p.degree - 1) = A.upper := by
  refine ⟨A.hknots ▸ pairwise_sort _, by rw [A.knots_length]; omega, ?_, ?_⟩
  · rw [A.knots_eq]; exact tk_replicate_append _ _ (Nat.lt_succ_self _)
  · have hi : p.knots.length - p.degree - 1
        = (List.replicate (p.degree + 1) A.lower ++ sort A.inner).length := by
      rw [A.knots_length, List.length_append, List.length_replicate, length_sort]; omega
    rw [hi, A.knots_eq, ← List.append_assoc]
    exact tk_append_replicate _ _ (Nat.succ_pos _)

theorem length_rowAux (f : Nat → Rat) (a n : Nat) : (rowAux f a n).length = n := by
  induction n generalizing a with
  | zero => rfl
  | succ n ih => rw [rowAux, List.length_cons, ih]

theorem length_bsRow (p : BsParams) (v : Rat) : (bsRow p v).length = bsNCols p := by
  unfold bsRow bsNCols bsFullRow
  split
  · exact length_rowAux _ _ _
  · rw [List.length_drop, length_rowAux]

/-- `innerFromData`'s result on non-empty data; the `quant` argument of `Spec.C14.validBsArgs` -/
def quantOf (x : List Rat) (m : Nat) : List Rat := (range1 m).map (fun i => percentile (sort x) i m)

theorem toBool_bsFinish (icpt : Bool) (deg : Nat) (lo hi : Rat) (k : KnotsArg)
    (fd : Option (List Rat)) :
    (bsFinish icpt deg lo hi k fd).toBool
      = (decide (lo ≤ hi) && (innerArg k fd).any (allInside lo hi)) := by
  unfold bsFinish
  rw [finishKnots_eq]
  cases innerArg k fd with
  | none => exact (Bool.and_false _).symm
  | some inner =>
    rw [Option.any_some]
    cases hc : decide (lo ≤ hi) && allInside lo hi inner <;> simp only [hc] <;> rfl

theorem exists_ok_map {α β : Type} (r : Except Err α) (g : α → β) :
    (∃ p, (match r with | .error e => Except.error e | .ok t => Except.ok (g t)) = Except.ok p)
      ↔ ∃ t, r = .ok t := by
  cases r with
  | error e => exact ⟨fun ⟨_, h⟩ => (nomatch h), fun ⟨_, h⟩ => (nomatch h)⟩
  | ok t => exact ⟨fun _ => ⟨t, rfl⟩, fun _ => ⟨g t, rfl⟩⟩

theorem toBool_iff {α : Type} (r : Except Err α) : (∃ p, r = .ok p) ↔ r.toBool = true := by
  cases r with
  | error e => exact ⟨fun ⟨_, h⟩ => (nomatch h), fun h => (nomatch h)⟩
  | ok v => exact ⟨fun _ => rfl, fun _ => ⟨v, rfl⟩⟩

theorem toBool_bsInitialize (b : Rat) (l : List Rat) (a : BsArgs) (hf : a.df ≠ .float true)
    (dmin dmax : Rat) (hmin : min? (b :: l) = some dmin) (hmax : max? (b :: l) = some dmax) :
    (bsInitialize (b :: l) a).toBool = validBsArgs dmin dmax (quantOf (b :: l)) a := by
  -- the cases follow the order of the checks in `bsInitialize`: at every refusal the matching
  -- conjunct of `validBsArgs` is `false`, every accepting path ends in `toBool_bsFinish`
  obtain ⟨df, knots, degree, icpt, lower, upper⟩ := a
  cases degree with
  | nonInt => rfl
  | int d =>
    by_cases hd : d < 0
    · simp only [bsInitialize, checkDegree, if_pos hd, validBsArgs, decide_eq_false (not_le.mpr hd)]
      rfl
    · have hb1 : boundOr lower (some dmin) = .ok (lower.getD dmin) := by cases lower <;> rfl
      have hb2 : boundOr upper (some dmax) = .ok (upper.getD dmax) := by cases upper <;> rfl
      simp only [bsInitialize, checkDegree, if_neg hd, validBsArgs, hmin, hmax, hb1, hb2,
        decide_eq_true (not_lt.mp hd), Bool.true_and]
      cases df with
      | none =>
        cases knots with
        | none => exact (Bool.and_false _).symm
        | vec ks => exact toBool_bsFinish ..
        | nested n => exact toBool_bsFinish ..
      | float z =>
        cases z with
        | true => exact absurd rfl hf
        | false => cases knots <;> exact (Bool.and_false _).symm
      | int f =>
        simp only [checkGiven, checkDfType, dfBranch, dfValue, innerCount, Nat.cast_add,
          Nat.cast_one, Int.toNat_of_nonneg (not_lt.mp hd)]
        generalize (f - (d + 1) + if icpt = true then 0 else 1) = N
        by_cases hN : N < 0
        · rw [if_pos hN, decide_eq_false (not_le.mpr hN)]
          exact (Bool.and_false _).symm
        · rw [if_neg hN, decide_eq_true (not_lt.mp hN), Bool.true_and]
          cases knots with
          | none => exact toBool_bsFinish ..
          | nested n =>
            simp only [knotsLen]
            split
            · exact (Bool.and_false _).symm
            · exact toBool_bsFinish ..
          | vec ks =>
            simp only [knotsLen]
            have hlen : ks.length = N.toNat ↔ (ks.length : Int) = N := by omega
            by_cases hl : ks.length = N.toNat
            · rw [if_neg (not_not.mpr hl), decide_eq_true (hlen.mp hl), Bool.true_and]
              exact toBool_bsFinish ..
            · rw [if_pos hl, decide_eq_false (mt hlen.mpr hl)]
              exact (Bool.and_false _).symm
theorem checkDegree_err {a : DegArg} {e : Err} (h : checkDegree a = .error e) : e = .value := by
  unfold checkDegree at h
  split at h
  · exact (Except.error.inj h).symm
  · split at h
    · exact (Except.error.inj h).symm
    · cases h

theorem checkGiven_err {a : DfArg} {k : KnotsArg} {e : Err} (h : checkGiven a k = .error e) :
    e = .value := by
  unfold checkGiven at h
  split at h
  · exact (Except.error.inj h).symm
  · cases h

theorem checkDfType_err {a : DfArg} {e : Err} (h : checkDfType a = .error e) : e = .value := by
  unfold checkDfType at h
  split at h
  · exact (Except.error.inj h).symm
  · cases h

theorem innerCount_err {d : Int} {o : Nat} {i : Bool} {e : Err} (h : innerCount d o i = .error e) :
    e = .value := by
  generalize hN : d - (o : Int) + (if i then 0 else 1) = N
  simp only [innerCount, hN] at h
  split at h
  · exact (Except.error.inj h).symm
  · cases h

theorem dfBranch_err {b : Rat} {l : List Rat} {df : DfArg} {k : KnotsArg} {o : Nat} {i : Bool}
    {e : Err} (hf : ∀ z, df ≠ .float z) (h : dfBranch (b :: l) df k o i = .error e) : e = .value := by
  cases df with
  | float z => exact absurd rfl (hf z)
  | none => cases h
  | int f =>
    simp only [dfBranch, dfValue] at h
    split at h
    · rename_i e' he
      exact Except.error.inj h ▸ innerCount_err he
    · split at h
      · split at h
        · exact (Except.error.inj h).symm
        · cases h
      · cases h

theorem finishKnots_err {lo hi : Rat} {k : KnotsArg} {fd : Option (List Rat)} {o : Nat} {e : Err}
    (h : finishKnots lo hi k fd o = .error e) : e = .value := by
  rw [finishKnots_eq] at h
  split at h
  · split at h
    · cases h
    · exact (Except.error.inj h).symm
  · exact (Except.error.inj h).symm

/-- `df = 0.0` passes `checkDfType` and, without `knots`, `np.linspace` raises TypeError -/
theorem bsInitialize_error_class (b : Rat) (l : List Rat) (a : BsArgs) (hf : a.df ≠ .float true)
    (e : Err) (h : bsInitialize (b :: l) a = .error e) : e = .value := by
  unfold bsInitialize at h
  split at h
  · rename_i e' he; exact Except.error.inj h ▸ checkDegree_err he
  split at h
  · rename_i e' he; exact Except.error.inj h ▸ checkGiven_err he
  split at h
  · rename_i e' he; exact Except.error.inj h ▸ checkDfType_err he
  rename_i ht
  split at h
  · rename_i e' he
    refine Except.error.inj h ▸ dfBranch_err (fun z hz => ?_) he
    cases z
    · rw [hz] at ht; cases ht
    · exact hf hz
  split at h
  · rename_i e' he; unfold boundOr at he; split at he <;> cases he
  split at h
  · rename_i e' he; unfold boundOr at he; split at he <;> cases he
  unfold bsFinish at h
  split at h
  · rename_i e' he; exact Except.error.inj h ▸ finishKnots_err he
  · cases h

end FormulaeModel.Transforms
