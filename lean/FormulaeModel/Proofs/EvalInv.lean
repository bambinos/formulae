import FormulaeModel.Proofs.RowsBasic
-- the mutual theorems below use their section variables only through each other
set_option linter.unusedSectionVars false
/-
What a successful run of the lazy evaluator looks like, node by node: one characterisation per
constructor of `Expr` / `Args`, and the induction principle over successful runs that follows from
them (`evalArg_induct`).
-/
namespace FormulaeModel.Design

theorem posOnly_ok (r : M ArgR) (v : Val) (t : TS) :
    posOnly r = .ok (v, t) ↔ r = .ok (none, v, t) := by
  unfold posOnly
  cases r with
  | error e => simp [bind, Except.bind]
  | ok x =>
    obtain ⟨kw, v', t'⟩ := x
    cases kw <;> simp [bind, Except.bind, pure, Except.pure]

@[simp] theorem TS.child_none (i : Nat) : TS.child none i = none := rfl
theorem TS.child_of_none {ts : Option TS} (h : ts = none) (i : Nat) : TS.child ts i = none := by
  subst h; rfl
@[simp] theorem TS.child_node (o : Option Rat) (cs : List TS) (i : Nat) :
    TS.child (some (.node o cs)) i = cs[i]? := rfl
@[simp] theorem TS.own_none : TS.own none = none := rfl
@[simp] theorem TS.own_node (o : Option Rat) (cs : List TS) : TS.own (some (.node o cs)) = o := rfl

/-- `cs.drop i`: the child states from argument `i` on -/
theorem drop_cons {α} (cs : List α) (i : Nat) (s : α) (rest : List α) (h : cs.drop i = s :: rest) :
    cs[i]? = some s ∧ cs.drop (i + 1) = rest := by
  have h1 := congrArg List.head? h
  have h2 := congrArg List.tail h
  rw [List.head?_drop] at h1
  rw [List.tail_drop] at h2
  exact ⟨h1, h2⟩

def leafName : Expr → Option String
  | .variable n => some n.lexeme
  | .subset n _ _ _ => some n.lexeme
  | .quoted t => some (String.ofList ((t.lexeme.toList.drop 1).dropLast))
  | _ => none

def unaryVal (op : Token) (v : Val) : M Val :=
  if op.kind == .MINUS then vecOp (fun a b => some (a * b)) (.num (-1) true) v else pure v

def binopVal (op : Token) (a b : Val) : M Val :=
  match op.kind with
  | .PLUS => vecOp (fun x y => some (x + y)) a b
  | .MINUS => vecOp (fun x y => some (x - y)) a b
  | .STAR => vecOp (fun x y => some (x * y)) a b
  | .SLASH =>
    match b with
    | .num q _ => if q == 0 then .error (.unmodelled "division by zero") else
        vecOp (fun x y => some (x / y)) a (.num q false)
    | _ => .error (.unmodelled "division by a vector")
  | _ => .error (.unmodelled "operator")

def CallArgs.push (acc : CallArgs) : Option String → Val → CallArgs
  | some k, x => ⟨acc.pos, acc.kw ++ [(k, x)]⟩
  | none, x => ⟨acc.pos ++ [x], acc.kw⟩

def CallArgs.all (p : Val → Prop) (a : CallArgs) : Prop :=
  (∀ v ∈ a.pos, p v) ∧ (∀ q ∈ a.kw, p q.2)

theorem CallArgs.all_nil (p : Val → Prop) : CallArgs.all p ⟨[], []⟩ :=
  ⟨fun _ h => (nomatch h), fun _ h => (nomatch h)⟩

theorem CallArgs.all_push {p : Val → Prop} {acc : CallArgs} {x : Val} (k : Option String)
    (h : acc.all p) (hx : p x) : (acc.push k x).all p := by
  cases k
  · exact ⟨fun v hv => (List.mem_append.1 hv).elim (h.1 v) fun hv => List.mem_singleton.1 hv ▸ hx, h.2⟩
  · exact ⟨h.1, fun q hq => (List.mem_append.1 hq).elim (h.2 q) fun hq => List.mem_singleton.1 hq ▸ hx⟩

theorem CallArgs.all_get {p : Val → Prop} {a : CallArgs} (h : a.all p) (hnone : p .pyNone) (i : Nat)
    (name : String) : p (a.get i name) := by
  unfold CallArgs.get
  cases hp : a.pos[i]? with
  | some v => exact h.1 v (List.mem_of_getElem? hp)
  | none =>
    cases hk : List.find? (fun x => x.1 == name) a.kw with
    | none => exact hnone
    | some q => exact h.2 q (List.mem_of_find?_eq_some hk)

section
variable {env : Env} {ts : Option TS} {kw : Option String} {v : Val} {t : TS}

theorem evalArg_grouping_ok {lp rp : Token} {e : Expr} :
    evalArg env (.grouping lp e rp) ts = .ok (kw, v, t) ↔
      kw = none ∧ evalArg env e ts = .ok (none, v, t) := by
  constructor
  · intro h
    obtain ⟨⟨_, _⟩, h1, h⟩ := (bind_ok _ _ _).1 h
    cases h
    exact ⟨rfl, (posOnly_ok _ _ _).1 h1⟩
  · rintro ⟨rfl, h⟩
    exact (bind_ok _ _ _).2 ⟨_, (posOnly_ok _ _ _).2 h, rfl⟩

theorem evalArg_name_ok {e : Expr} {s : String} (hs : leafName e = some s) :
    evalArg env e ts = .ok (kw, v, t) ↔ kw = none ∧ t = .leaf ∧ lookupName env s = .ok v := by
  have key : evalArg env e ts = (do pure (Option.none, ← lookupName env s, TS.leaf)) := by
    cases e <;> simp only [leafName, Option.some.injEq, reduceCtorEq] at hs <;> subst hs <;> rfl
  simp only [key, bind_ok, pure_ok, Prod.mk.injEq]
  constructor
  · rintro ⟨_, h, rfl, rfl, rfl⟩; exact ⟨rfl, rfl, h⟩
  · rintro ⟨rfl, rfl, h⟩; exact ⟨_, h, rfl, rfl, rfl⟩

theorem evalArg_literal_ok {q : Token} (h : evalArg env (.literal q) ts = .ok (kw, v, t)) :
    kw = none ∧ t = .leaf ∧ v.isScalar = true ∧
      ∀ (env' : Env) (ts' : Option TS), evalArg env' (.literal q) ts' = .ok (none, v, .leaf) := by
  have h0 := h
  unfold evalArg at h
  -- every arm is an error or `pure (none, scalar, .leaf)`, and none reads `env` or `ts`
  repeat' split at h
  all_goals first
    | (cases h; done)
    | (simp only [pure_ok, Prod.mk.injEq] at h
       obtain ⟨rfl, rfl, rfl⟩ := h
       exact ⟨rfl, rfl, rfl, fun _ _ => h0⟩)

theorem evalArg_unary_ok {op : Token} {r : Expr} :
    evalArg env (.unary op r) ts = .ok (kw, v, t) ↔
      ∃ x st, evalArg env r (TS.child ts 0) = .ok (none, x, st) ∧ unaryVal op x = .ok v ∧
        kw = none ∧ t = .node none [st] := by
  unfold unaryVal
  constructor
  · intro h
    obtain ⟨⟨x, st⟩, h1, h⟩ := (bind_ok _ _ _).1 h
    refine ⟨x, st, (posOnly_ok _ _ _).1 h1, ?_⟩
    dsimp only at h
    split at h
    · obtain ⟨w, hw, h⟩ := (bind_ok _ _ _).1 h
      cases h
      exact ⟨(if_pos ‹_›).trans hw, rfl, rfl⟩
    · cases h
      exact ⟨if_neg ‹_›, rfl, rfl⟩
  · rintro ⟨x, st, h1, hv, rfl, rfl⟩
    refine (bind_ok _ _ _).2 ⟨(x, st), (posOnly_ok _ _ _).2 h1, ?_⟩
    dsimp only
    split at hv
    · rw [if_pos ‹_›]; exact (bind_ok _ _ _).2 ⟨_, hv, rfl⟩
    · cases hv; rw [if_neg ‹_›]; rfl

theorem evalArg_binary {l r : Expr} {op : Token} :
    evalArg env (.binary l op r) ts = (do
      let (a, sa) ← posOnly (evalArg env l (TS.child ts 0))
      let (b, sb) ← posOnly (evalArg env r (TS.child ts 1))
      pure (Option.none, ← binopVal op a b, TS.node Option.none [sa, sb])) := by
  unfold binopVal
  refine bind_congr fun ⟨a, sa⟩ => bind_congr fun ⟨b, sb⟩ => ?_
  dsimp only
  split
  next h => rw [h]
  next h => rw [h]
  next h => rw [h]
  next h =>
    rw [h]
    cases b <;> try rfl
    dsimp only
    split <;> rfl
  next h1 h2 h3 h4 =>
    -- no operator of `binopVal` either: its four named arms contradict `h1 … h4`
    split <;> first | rfl | contradiction

theorem evalArg_binary_ok {l r : Expr} {op : Token} :
    evalArg env (.binary l op r) ts = .ok (kw, v, t) ↔
      ∃ a sa b sb, evalArg env l (TS.child ts 0) = .ok (none, a, sa) ∧
        evalArg env r (TS.child ts 1) = .ok (none, b, sb) ∧ binopVal op a b = .ok v ∧
        kw = none ∧ t = .node none [sa, sb] := by
  simp only [evalArg_binary, bind_ok, pure_ok, Prod.exists, posOnly_ok, Prod.mk.injEq]
  constructor
  · rintro ⟨a, sa, h1, b, sb, h2, _, h3, rfl, rfl, rfl⟩; exact ⟨a, sa, b, sb, h1, h2, h3, rfl, rfl⟩
  · rintro ⟨a, sa, b, sb, h1, h2, h3, rfl, rfl⟩; exact ⟨a, sa, h1, b, sb, h2, _, h3, rfl, rfl, rfl⟩

theorem evalArg_call_ok {c : Expr} {lp rp : Token} {as : Args} :
    evalArg env (.call c lp as rp) ts = .ok (kw, v, t) ↔
      ∃ n args sts own, c = .variable n ∧ evalArgs env as ts 0 ⟨[], []⟩ = .ok (args, sts) ∧
        finishCall n.lexeme args (TS.own ts) = .ok (v, own) ∧ kw = none ∧ t = .node own sts := by
  constructor
  · intro h
    cases c with
    | «variable» n =>
      obtain ⟨⟨args, sts⟩, h1, h⟩ := (bind_ok _ _ _).1 h
      obtain ⟨⟨_, own⟩, h2, h⟩ := (bind_ok _ _ _).1 h
      cases h
      exact ⟨n, args, sts, own, rfl, h1, h2, rfl, rfl⟩
    | _ => cases h
  · rintro ⟨n, args, sts, own, rfl, h1, h2, rfl, rfl⟩
    exact (bind_ok _ _ _).2 ⟨_, h1, (bind_ok _ _ _).2 ⟨_, h2, rfl⟩⟩

theorem evalArg_brace_ok {lb rb : Token} {e : Expr} :
    evalArg env (.brace lb e rb) ts = .ok (kw, v, t) ↔
      ∃ st, evalArg env e (TS.child ts 0) = .ok (none, v, st) ∧ kw = none ∧ t = .node none [st] := by
  constructor
  · intro h
    obtain ⟨⟨_, st⟩, h1, h⟩ := (bind_ok _ _ _).1 h
    cases h
    exact ⟨st, (posOnly_ok _ _ _).1 h1, rfl, rfl⟩
  · rintro ⟨st, h, rfl, rfl⟩
    exact (bind_ok _ _ _).2 ⟨_, (posOnly_ok _ _ _).2 h, rfl⟩

theorem evalArg_assign_ok {n x : Expr} {eq : Token} :
    evalArg env (.assign n eq x) ts = .ok (kw, v, t) ↔
      ∃ tok, n = .variable tok ∧ kw = some tok.lexeme ∧ evalArg env x ts = .ok (none, v, t) := by
  constructor
  · intro h
    obtain ⟨⟨_, _⟩, h1, h⟩ := (bind_ok _ _ _).1 h
    cases n with
    | «variable» tok => cases h; exact ⟨tok, rfl, rfl, (posOnly_ok _ _ _).1 h1⟩
    | _ => cases h
  · rintro ⟨tok, rfl, rfl, h⟩
    exact (bind_ok _ _ _).2 ⟨_, (posOnly_ok _ _ _).2 h, rfl⟩

variable {i : Nat} {acc a : CallArgs} {sts : List TS}

theorem evalArgs_nil_ok : evalArgs env .nil ts i acc = .ok (a, sts) ↔ a = acc ∧ sts = [] := by
  constructor
  · intro h; cases h; exact ⟨rfl, rfl⟩
  · rintro ⟨rfl, rfl⟩; rfl

theorem evalArgs_last_ok {e : Expr} :
    evalArgs env (.last e) ts i acc = .ok (a, sts) ↔
      ∃ k x st, evalArg env e (TS.child ts i) = .ok (k, x, st) ∧ a = acc.push k x ∧ sts = [st] := by
  constructor
  · intro h
    obtain ⟨⟨k, x, st⟩, h1, h⟩ := (bind_ok _ _ _).1 h
    cases k <;> cases h <;> exact ⟨_, x, st, h1, rfl, rfl⟩
  · rintro ⟨k, x, st, h1, rfl, rfl⟩
    refine (bind_ok _ _ _).2 ⟨_, h1, ?_⟩
    cases k <;> rfl

theorem evalArgs_more_ok {e : Expr} {c : Token} {rest : Args} :
    evalArgs env (.more e c rest) ts i acc = .ok (a, sts) ↔
      ∃ k x st sts', evalArg env e (TS.child ts i) = .ok (k, x, st) ∧
        evalArgs env rest ts (i + 1) (acc.push k x) = .ok (a, sts') ∧ sts = st :: sts' := by
  constructor
  · intro h
    obtain ⟨⟨k, x, st⟩, h1, h⟩ := (bind_ok _ _ _).1 h
    cases k <;>
      (obtain ⟨⟨_, sts'⟩, h2, h⟩ := (bind_ok _ _ _).1 h
       cases h
       exact ⟨_, x, st, sts', h1, h2, rfl⟩)
  · rintro ⟨k, x, st, sts', h1, h2, rfl⟩
    refine (bind_ok _ _ _).2 ⟨_, h1, ?_⟩
    cases k <;> exact (bind_ok _ _ _).2 ⟨_, h2, rfl⟩

end

section
variable (env : Env) {P : Expr → Option TS → Option String → Val → TS → Prop}
  {Q : Args → Option TS → Nat → CallArgs → CallArgs → List TS → Prop}
  (grouping : ∀ lp e rp ts v t, evalArg env e ts = .ok (none, v, t) → P e ts none v t →
    P (.grouping lp e rp) ts none v t)
  (name : ∀ e s ts v, leafName e = some s → lookupName env s = .ok v → P e ts none v .leaf)
  (literal : ∀ q ts v, evalArg env (.literal q) ts = .ok (none, v, .leaf) →
    P (.literal q) ts none v .leaf)
  (unary : ∀ op r ts x st v, evalArg env r (TS.child ts 0) = .ok (none, x, st) →
    P r (TS.child ts 0) none x st → unaryVal op x = .ok v → P (.unary op r) ts none v (.node none [st]))
  (binary : ∀ l op r ts a sa b sb v, evalArg env l (TS.child ts 0) = .ok (none, a, sa) →
    P l (TS.child ts 0) none a sa → evalArg env r (TS.child ts 1) = .ok (none, b, sb) →
    P r (TS.child ts 1) none b sb → binopVal op a b = .ok v →
    P (.binary l op r) ts none v (.node none [sa, sb]))
  (call : ∀ n lp as rp ts args sts v own, evalArgs env as ts 0 ⟨[], []⟩ = .ok (args, sts) →
    Q as ts 0 ⟨[], []⟩ args sts → finishCall n.lexeme args (TS.own ts) = .ok (v, own) →
    P (.call (.variable n) lp as rp) ts none v (.node own sts))
  (brace : ∀ lb e rb ts v st, evalArg env e (TS.child ts 0) = .ok (none, v, st) →
    P e (TS.child ts 0) none v st → P (.brace lb e rb) ts none v (.node none [st]))
  (assign : ∀ n eq x ts v t, evalArg env x ts = .ok (none, v, t) → P x ts none v t →
    P (.assign (.variable n) eq x) ts (some n.lexeme) v t)
  (nil : ∀ ts i acc, Q .nil ts i acc acc [])
  (last : ∀ e ts i acc k x st, evalArg env e (TS.child ts i) = .ok (k, x, st) →
    P e (TS.child ts i) k x st → Q (.last e) ts i acc (acc.push k x) [st])
  (more : ∀ e c rest ts i acc k x st a sts, evalArg env e (TS.child ts i) = .ok (k, x, st) →
    P e (TS.child ts i) k x st → evalArgs env rest ts (i + 1) (acc.push k x) = .ok (a, sts) →
    Q rest ts (i + 1) (acc.push k x) a sts → Q (.more e c rest) ts i acc a (st :: sts))
include grouping name literal unary binary call brace assign nil last more

mutual
theorem evalArg_induct_expr : ∀ (e : Expr) (ts : Option TS) (kw : Option String) (v : Val) (t : TS),
    evalArg env e ts = .ok (kw, v, t) → P e ts kw v t
  | .grouping lp e rp, ts, kw, v, t, h => by
    obtain ⟨rfl, h1⟩ := evalArg_grouping_ok.1 h
    exact grouping lp e rp ts v t h1 (evalArg_induct_expr e _ _ _ _ h1)
  | .variable n, ts, kw, v, t, h => by
    obtain ⟨rfl, rfl, h1⟩ := (evalArg_name_ok rfl).1 h
    exact name _ _ ts v rfl h1
  | .subset n _ _ _, ts, kw, v, t, h => by
    obtain ⟨rfl, rfl, h1⟩ := (evalArg_name_ok rfl).1 h
    exact name _ _ ts v rfl h1
  | .quoted q, ts, kw, v, t, h => by
    obtain ⟨rfl, rfl, h1⟩ := (evalArg_name_ok rfl).1 h
    exact name _ _ ts v rfl h1
  | .literal q, ts, kw, v, t, h => by
    obtain ⟨rfl, rfl, -, -⟩ := evalArg_literal_ok h
    exact literal q ts v h
  | .unary op r, ts, kw, v, t, h => by
    obtain ⟨x, st, h1, hv, rfl, rfl⟩ := evalArg_unary_ok.1 h
    exact unary op r ts x st v h1 (evalArg_induct_expr r _ _ _ _ h1) hv
  | .binary l op r, ts, kw, v, t, h => by
    obtain ⟨a, sa, b, sb, h1, h2, hv, rfl, rfl⟩ := evalArg_binary_ok.1 h
    exact binary l op r ts a sa b sb v h1 (evalArg_induct_expr l _ _ _ _ h1) h2
      (evalArg_induct_expr r _ _ _ _ h2) hv
  | .call c lp as rp, ts, kw, v, t, h => by
    obtain ⟨n, args, sts, own, rfl, h1, h2, rfl, rfl⟩ := evalArg_call_ok.1 h
    exact call n lp as rp ts args sts v own h1 (evalArg_induct_args as _ _ _ _ _ h1) h2
  | .brace lb e rb, ts, kw, v, t, h => by
    obtain ⟨st, h1, rfl, rfl⟩ := evalArg_brace_ok.1 h
    exact brace lb e rb ts v st h1 (evalArg_induct_expr e _ _ _ _ h1)
  | .assign n eq x, ts, kw, v, t, h => by
    obtain ⟨tok, rfl, rfl, h1⟩ := evalArg_assign_ok.1 h
    exact assign tok eq x ts v t h1 (evalArg_induct_expr x _ _ _ _ h1)
theorem evalArg_induct_args : ∀ (as : Args) (ts : Option TS) (i : Nat) (acc a : CallArgs)
    (sts : List TS), evalArgs env as ts i acc = .ok (a, sts) → Q as ts i acc a sts
  | .nil, ts, i, acc, a, sts, h => by
    obtain ⟨rfl, rfl⟩ := evalArgs_nil_ok.1 h
    exact nil ts i a
  | .last e, ts, i, acc, a, sts, h => by
    obtain ⟨k, x, st, h1, rfl, rfl⟩ := evalArgs_last_ok.1 h
    exact last e ts i acc k x st h1 (evalArg_induct_expr e _ _ _ _ h1)
  | .more e c rest, ts, i, acc, a, sts, h => by
    obtain ⟨k, x, st, sts', h1, h2, rfl⟩ := evalArgs_more_ok.1 h
    exact more e c rest ts i acc k x st a sts' h1 (evalArg_induct_expr e _ _ _ _ h1) h2
      (evalArg_induct_args rest _ _ _ _ _ h2)
end

theorem evalArg_induct :
    (∀ e ts kw v t, evalArg env e ts = .ok (kw, v, t) → P e ts kw v t) ∧
    (∀ as ts i acc a sts, evalArgs env as ts i acc = .ok (a, sts) → Q as ts i acc a sts) :=
  ⟨evalArg_induct_expr env grouping name literal unary binary call brace assign nil last more,
   evalArg_induct_args env grouping name literal unary binary call brace assign nil last more⟩

end

end FormulaeModel.Design
