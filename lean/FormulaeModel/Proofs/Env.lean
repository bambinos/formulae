import FormulaeModel.Spec.C11
/-
Helper lemmas for C11 (name resolution): dict lookup = "binds", nested lookup = first match over
the flattened scope list, characterisation of the first match, walking the call stack, attribute chains
(`getattrChain_follow`), lookup in a frame restricted to some columns (`select_lookup*`).
-/
namespace FormulaeModel.Env
open FormulaeModel.Spec.C11

theorem lookup_eq_binds (s : Scope) (n : String) : s.lookup n = binds s n := by
  induction s with
  | nil => rfl
  | cons kv r ih =>
    obtain ⟨k, v⟩ := kv
    by_cases h : k = n
    · simp [Scope.lookup, binds, h]
    · simp [Scope.lookup, binds, h]
      simpa [binds] using ih

theorem firstMatch_nil (n : String) : firstMatch [] n = none := rfl

theorem firstMatch_cons (s : Scope) (ss : List Scope) (n : String) :
    firstMatch (s :: ss) n = (binds s n).or (firstMatch ss n) := by
  simp only [firstMatch, List.findSome?_cons]
  split <;> simp_all

theorem firstMatch_empty_cons (ss : List Scope) (n : String) :
    firstMatch ([] :: ss) n = firstMatch ss n := rfl

theorem firstMatch_append (a b : List Scope) (n : String) :
    firstMatch (a ++ b) n = (firstMatch a n).or (firstMatch b n) := by
  induction a with
  | nil => simp [firstMatch_nil]
  | cons s a ih =>
    simp only [List.cons_append, firstMatch_cons]
    cases h : binds s n <;> simp [ih]

mutual
theorem lookup_flatten : ∀ (ns : Ns) (n : String), ns.lookup n = firstMatch ns.flatten n
  | .dict s, n => by
    simp [Ns.lookup, Ns.flatten, firstMatch_cons, firstMatch_nil, lookup_eq_binds]
  | .vld ds, n => by
    simp only [Ns.lookup, Ns.flatten]
    exact lookupList_flatten ds n
theorem lookupList_flatten : ∀ (ds : List Ns) (n : String),
    Ns.lookupList ds n = firstMatch (Ns.flatten.flattenList ds) n
  | [], n => by simp [Ns.lookupList, Ns.flatten.flattenList, firstMatch_nil]
  | d :: ds, n => by
    simp only [Ns.lookupList, Ns.flatten.flattenList, firstMatch_append]
    rw [lookup_flatten d n, lookupList_flatten ds n]
    cases firstMatch d.flatten n <;> rfl
end

theorem flattenList_append (a b : List Ns) :
    Ns.flatten.flattenList (a ++ b) = Ns.flatten.flattenList a ++ Ns.flatten.flattenList b := by
  induction a with
  | nil => rfl
  | cons x a ih => simp [Ns.flatten.flattenList, ih]

theorem lookup_new (ds : List Ns) (n : String) :
    (VarLookupDict.new documentedWiring ds).lookup n = firstMatch (Ns.flatten.flattenList ds) n := by
  rw [lookup_flatten]
  exact firstMatch_empty_cons _ n

theorem flattenList_map_dict (ss : List Scope) : Ns.flatten.flattenList (ss.map Ns.dict) = ss := by
  induction ss with
  | nil => rfl
  | cons s ss ih => simp [Ns.flatten.flattenList, Ns.flatten, ih]

theorem firstMatch_iff (ss : List Scope) (n : String) (v : Val) :
    firstMatch ss n = some v ↔
      ∃ i s, ss[i]? = some s ∧ binds s n = some v ∧
        ∀ (j : Nat) t, j < i → ss[j]? = some t → binds t n = none := by
  rw [firstMatch, List.findSome?_eq_some_iff]
  constructor
  · rintro ⟨l₁, s, l₂, rfl, hv, hmin⟩
    refine ⟨l₁.length, s, by simp, hv, fun j t hj ht => hmin t ?_⟩
    rw [List.getElem?_append_left hj] at ht
    exact List.mem_of_getElem? ht
  · rintro ⟨i, s, hi, hv, hmin⟩
    obtain ⟨hlt, rfl⟩ := List.getElem?_eq_some_iff.1 hi
    refine ⟨ss.take i, ss[i], ss.drop (i + 1), by simp, hv, fun t ht => ?_⟩
    obtain ⟨j, hj, rfl⟩ := List.getElem_of_mem ht
    rw [List.length_take] at hj
    exact hmin j _ (by omega) (by simp [List.getElem?_eq_getElem (show j < ss.length by omega)])

theorem firstMatch_none_iff (ss : List Scope) (n : String) :
    firstMatch ss n = none ↔ ∀ s ∈ ss, binds s n = none := by
  simp [firstMatch]

theorem firstMatch_some_mem {ss : List Scope} {n : String} {v : Val} (h : firstMatch ss n = some v) :
    ∃ s ∈ ss, binds s n = some v :=
  List.exists_of_findSome?_eq_some h

theorem walkBack_drop (k : Nat) (st : List Frame) (h : k ≤ st.length) :
    walkBack k st = .ok (st.drop k) := by
  induction k generalizing st with
  | zero => simp [walkBack]
  | succ k ih =>
    cases st with
    | nil => simp at h
    | cons f st => simp [walkBack]; exact ih st (by simpa using h)

theorem walkBack_too_deep (k : Nat) (st : List Frame) (h : st.length < k) :
    walkBack k st = .error .valueError := by
  induction k generalizing st with
  | zero => omega
  | succ k ih =>
    cases st with
    | nil => simp [walkBack]
    | cons f st => simp [walkBack]; exact ih st (by simp at h; omega)

theorem getattrChain_follow (v : Val) (path : List String) :
    outcomeOf (getattrChain v path) = follow v path := by
  induction path generalizing v with
  | nil => cases v; simp [getattrChain, follow, outcomeOf]
  | cons a rest ih =>
    obtain ⟨t, attrs⟩ := v
    simp only [getattrChain, getattr, follow, lookup_eq_binds]
    cases h : binds attrs a with
    | none => simp [outcomeOf]
    | some w => simpa using ih w

theorem select_lookup (s : Scope) (cols : List String) (n : String) (h : n ∈ cols) :
    (s.select cols).lookup n = s.lookup n := by
  induction s with
  | nil => rfl
  | cons kv r ih =>
    obtain ⟨k, v⟩ := kv
    simp only [Scope.select, List.filter_cons]
    by_cases hk : k = n
    · subst hk
      simp [Scope.lookup, h]
    · by_cases hc : cols.contains k = true
      · simp only [hc, if_true, Scope.lookup, hk, if_false]
        simpa [Scope.select] using ih
      · simp only [hc, Scope.lookup, hk, if_false]
        simpa [Scope.select] using ih

theorem select_lookup_absent (s : Scope) (cols : List String) (n : String) (h : n ∉ cols) :
    (s.select cols).lookup n = none := by
  induction s with
  | nil => rfl
  | cons kv r ih =>
    obtain ⟨k, v⟩ := kv
    simp only [Scope.select, List.filter_cons]
    by_cases hc : cols.contains k = true
    · have hk : k ≠ n := by
        intro e; subst e; simp at hc; exact h hc
      simp only [hc, if_true, Scope.lookup, hk, if_false]
      simpa [Scope.select] using ih
    · simp only [hc]
      simpa [Scope.select] using ih

theorem select_lookup_some (s : Scope) (cols : List String) (n : String) (v : Val)
    (h : (s.select cols).lookup n = some v) : s.lookup n = some v := by
  by_cases hn : n ∈ cols
  · rwa [select_lookup s cols n hn] at h
  · rw [select_lookup_absent s cols n hn] at h; cases h

end FormulaeModel.Env
