import FormulaeModel.Model.Token
/-
`Kind.all` lists every token kind, so a decidable statement about all kinds is one evaluation.
-/
namespace FormulaeModel

theorem Kind.mem_all (k : Kind) : k ∈ Kind.all := by
  cases k <;> decide +kernel

theorem Kind.forall_of_all {p : Kind → Prop} (h : ∀ k ∈ Kind.all, p k) : ∀ k, p k :=
  fun k => h k (Kind.mem_all k)

end FormulaeModel
