import FormulaeModel.Model.Resolver
import FormulaeModel.Proofs.RespSimp
/-
In the model of the resolver and the term algebra a response exists only where a `~` operator
put it, and what is on the right of the `~` is resolved without looking at the left.
-/
namespace FormulaeModel.Resolver
open FormulaeModel.Terms

def hasResp : Obj → Bool
  | .response _ => true
  | .model m => m.resp.isSome
  | _ => false

/-- at a position the resolver visits there is an operator that the table maps to `~` -/
def hasTilde (ops : OpTable) : Expr → Bool
  | .grouping _ e _ => hasTilde ops e
  | .binary l op r => lookupOp ops op.kind == some .tilde || hasTilde ops l || hasTilde ops r
  | .unary _ r => hasTilde ops r
  | _ => false

theorem addTerm_resp (m m' : ModelV) (o : Obj) (h : addTerm m o = .ok m') : m'.resp = m.resp := by
  unfold addTerm at h
  split at h
  all_goals first | (simp at h; done) | (simp only [pure, Except.pure, Except.ok.injEq] at h; subst h; split <;> rfl)

theorem addTerms_resp : ∀ (ts : List Obj) (m m' : ModelV), addTerms m ts = .ok m' → m'.resp = m.resp := by
  intro ts
  induction ts with
  | nil => intro m m' h; simp only [addTerms, pure, Except.pure, Except.ok.injEq] at h; subst h; rfl
  | cons t ts ih =>
    intro m m' h
    simp only [addTerms, bind, Except.bind] at h
    split at h
    · simp at h
    · rename_i m1 h1
      rw [ih m1 m' h, addTerm_resp m m1 t h1]

theorem addModel_resp (m o m' : ModelV) (h : addModel m o = .ok m') : m'.resp = m.resp :=
  addTerms_resp _ m m' h

theorem mkModelFrom_resp : ∀ (ts : List Obj) (m m' : ModelV), mkModelFrom m ts = .ok m' → m'.resp = m.resp := by
  intro ts
  induction ts with
  | nil => intro m m' h; simp only [mkModelFrom, pure, Except.pure, Except.ok.injEq] at h; subst h; rfl
  | cons t ts ih =>
    intro m m' h
    cases t with
    | c x => simp only [mkModelFrom] at h; rw [ih _ m' h]
    | g x => simp only [mkModelFrom] at h; rw [ih _ m' h]
    | response _ => simp [mkModelFrom] at h
    | model _ => simp [mkModelFrom] at h

/-- close a goal about an operator: split every branch, use the `resp` lemmas -/
macro "resp_cases" h:ident : tactic => `(tactic| (
  simp only [bind, Except.bind, pure, Except.pure] at $h:ident
  repeat' split at $h:ident
  all_goals (try (simp at $h:ident; done))
  all_goals (try (simp only [Except.ok.injEq] at $h:ident; subst $h:ident))))


macro "resp_close" ho:ident : tactic => `(tactic| (
  first
  | (simp [hasResp, modelOfC] at $ho:ident ⊢; done)
  | (simp [hasResp, modelOfC] at $ho:ident ⊢; exact $ho:ident)
  | grind [hasResp, modelOfC_hasResp, mkModel_hasResp, addInteractions_hasResp, addModel_hasResp, addTerm_hasResp]))

def resultResp : R → Bool
  | .ok o => hasResp o
  | .error _ => false

def builtResp : Except Err ModelV → Bool
  | .ok m => m.resp.isSome
  | .error _ => false

@[resp] theorem hasResp_c (t : CTerm) : hasResp (.c t) = false := by rfl
@[resp] theorem hasResp_g (t : GTerm) : hasResp (.g t) = false := by rfl
@[resp] theorem hasResp_response (r : List Atom) : hasResp (.response r) = true := by rfl
@[resp] theorem hasResp_model (m : ModelV) : hasResp (.model m) = m.resp.isSome := by rfl
@[resp] theorem resultResp_pure (o : Obj) : resultResp (pure o) = hasResp o := by rfl
@[resp] theorem resultResp_error (e : Err) : resultResp (.error e) = false := by rfl

@[resp] theorem resultResp_model (x : Except Err ModelV) :
    resultResp (do pure (.model (← x))) = builtResp x := by
  cases x <;> rfl

@[resp] theorem resultResp_bind {α : Type} (x : Except Err α) (f : α → R)
    (h : ∀ a, resultResp (f a) = false) : resultResp (x >>= f) = false := by
  cases x with
  | error _ => rfl
  | ok a => exact h a

@[resp] theorem resultResp_ite (c : Prop) [Decidable c] (a b : R) (ha : resultResp a = false)
    (hb : resultResp b = false) : resultResp (if c then a else b) = false := by
  split <;> assumption

theorem builtResp_of_resp {x : Except Err ModelV} {m₀ : ModelV} (h₀ : m₀.resp.isSome = false)
    (h : ∀ m, x = .ok m → m.resp = m₀.resp) : builtResp x = false := by
  cases x with
  | error _ => rfl
  | ok m => simpa only [builtResp, h m rfl] using h₀

@[resp] theorem addTerm_noResp (m : ModelV) (t : Obj) (h : m.resp.isSome = false) :
    builtResp (addTerm m t) = false := builtResp_of_resp h fun m' => addTerm_resp m m' t

@[resp] theorem addModel_noResp (m o : ModelV) (h : m.resp.isSome = false) :
    builtResp (addModel m o) = false := builtResp_of_resp h fun m' => addModel_resp m o m'

@[resp] theorem mkModel_noResp (ts : List Obj) : builtResp (mkModel ts) = false :=
  builtResp_of_resp (m₀ := {}) rfl fun m' => mkModelFrom_resp ts {} m'

@[resp] theorem addInteractions_noResp (a b : List CTerm) : builtResp (addInteractions a b) = false :=
  addModel_noResp _ _ rfl

attribute [resp] modelOfC Option.isSome_none implies_true

/-! An operator other than `~` gives no response to its result unless the left operand has one:
every branch returns a term, a model built from terms, or the left model with terms added or
removed. -/

theorem add_noResp (l r : Obj) (hl : hasResp l = false) : resultResp (add l r) = false := by
  fun_cases add l r <;> simp only [resp, reduceCtorEq] at hl ⊢ <;> simp only [hl, resp]

theorem sub_noResp (l r : Obj) (hl : hasResp l = false) : resultResp (sub l r) = false := by
  fun_cases sub l r <;> simp only [resp] at hl ⊢ <;> simp only [hl, resp]

theorem mul_noResp (l r : Obj) (hl : hasResp l = false) : resultResp (mul l r) = false := by
  fun_cases mul l r <;> simp only [resp] at hl ⊢ <;> try simp only [hl, resp]
  -- what the simp set leaves is `Model * Model`: the left model itself, or a model of interaction terms
  refine resultResp_bind _ _ fun b => ?_
  split
  · simpa only [resp] using hl
  · split <;> simp only [resp]

theorem matmul_noResp (l r : Obj) (hl : hasResp l = false) : resultResp (matmul l r) = false := by
  fun_cases matmul l r <;> simp only [resp] at hl ⊢ <;> simp only [hl, resp]

theorem div_noResp (l r : Obj) (hl : hasResp l = false) : resultResp (div l r) = false := by
  fun_cases div l r <;> simp only [resp] at hl ⊢ <;> simp only [hl, resp]

theorem pow_noResp (l r : Obj) (hl : hasResp l = false) : resultResp (pow l r) = false := by
  fun_cases pow l r <;> simp only [resp] at hl ⊢ <;> simp only [hl, resp]

@[resp] theorem orC_noResp (t : CTerm) (r : Obj) : resultResp (orC t r) = false := by
  fun_cases orC t r <;> simp only [resp]

theorem or_noResp (l r : Obj) : resultResp (or_ l r) = false := by
  fun_cases or_ l r <;> simp only [resp]

theorem apply_noResp (op : Op) (hop : op ≠ .tilde) (l r : Obj) (hl : hasResp l = false) :
    resultResp (apply op l r) = false := by
  cases op with
  | tilde => exact absurd rfl hop
  | add => exact add_noResp l r hl
  | sub => exact sub_noResp l r hl
  | pow => exact pow_noResp l r hl
  | matmul => exact matmul_noResp l r hl
  | mul => exact mul_noResp l r hl
  | truediv => exact div_noResp l r hl
  | or_ => exact or_noResp l r

theorem resolve_noResp (ops : OpTable) : ∀ (e : Expr), hasTilde ops e = false →
    resultResp (resolve ops e) = false
  | .grouping _ e _, h => resolve_noResp ops e h
  | .binary l op r, h => by
    simp only [hasTilde, Bool.or_eq_false_iff, beq_eq_false_iff_ne] at h
    simp only [resolve]
    cases hop : lookupOp ops op.kind with
    | none => rfl
    | some oper =>
      have hl := resolve_noResp ops l h.1.2
      generalize resolve ops l = x at hl ⊢
      cases x with
      | error _ => rfl
      | ok lv =>
        cases resolve ops r with
        | error _ => rfl
        | ok rv => exact apply_noResp oper (fun ht => h.1.1 (ht ▸ hop)) lv rv hl
  | .unary op r, h => by
    simp only [resolve]
    split
    · exact resolve_noResp ops r h
    · cases resolve ops r with
      | error _ => rfl
      | ok o => simp only [bind, Except.bind]; split <;> rfl
    · rfl
  | .call .., _ => by simp only [resolve, resp]
  | .brace .., _ => by simp only [resolve, resp]
  | .variable _, _ => by rfl
  | .subset _ _ lv _, _ => by simp only [resolve]; split <;> rfl
  | .quoted _, _ => by rfl
  | .literal _, _ => by
    simp only [resolve]
    repeat' split
    all_goals rfl
  | .assign .., _ => by rfl

theorem mkResponse_ok_term (l o : Obj) (h : mkResponse l = .ok o) : ∃ a, l = .c (.term [a]) ∧ o = .response [a] := by
  unfold mkResponse at h
  split at h
  · simp only [pure, Except.pure, Except.ok.injEq] at h
    exact ⟨_, rfl, h.symm⟩
  · simp at h

theorem describe_resp (ops : OpTable) (e : Expr) (m : ModelV) (h : describe ops e = .ok m)
    (hr : m.resp.isSome = true) : hasTilde ops e = true := by
  cases ht : hasTilde ops e with
  | true => rfl
  | false =>
    have hn := resolve_noResp ops e ht
    unfold describe at h
    cases ho : resolve ops e with
    | error _ => rw [ho] at h; cases h
    | ok o =>
      rw [ho] at h hn
      cases o <;> cases h
      · exact hr
      · exact hr
      · exact hn.symm.trans hr

/-- common terms / group terms an object contributes when it stands to the right of `~` -/
def rhsCommon : Obj → List CTerm
  | .c t => [t]
  | .model m => m.common
  | _ => []

def rhsGroup : Obj → List GTerm
  | .g t => [t]
  | .model m => m.group
  | _ => []

theorem add_response (a : List Atom) (rv o : Obj) (h : add (.response a) rv = .ok o) :
    ∃ m, o = .model m ∧ m.resp = some a ∧ m.common = rhsCommon rv ∧ m.group = rhsGroup rv := by
  cases rv with
  | c t => cases t <;> cases h <;> exact ⟨_, rfl, rfl, rfl, rfl⟩
  | g x => cases h; exact ⟨_, rfl, rfl, rfl, rfl⟩
  | response _ => cases h
  | model m => cases h; exact ⟨_, rfl, rfl, rfl, rfl⟩

/-- **`lhs ~ rhs`**: the left side must resolve to a single one-component term, which becomes the
response; the common and group terms of the result are those of the right side alone -/
theorem resolve_tilde (ops : OpTable) (l : Expr) (op : Token) (r : Expr)
    (hop : lookupOp ops op.kind = some .tilde) (o : Obj) (h : resolve ops (.binary l op r) = .ok o) :
    ∃ a rv m, resolve ops l = .ok (.c (.term [a])) ∧ resolve ops r = .ok rv ∧ o = .model m ∧
      m.resp = some [a] ∧ m.common = rhsCommon rv ∧ m.group = rhsGroup rv := by
  simp only [resolve, hop] at h
  cases hl : resolve ops l with
  | error _ => rw [hl] at h; cases h
  | ok lv =>
    cases hr : resolve ops r with
    | error _ => rw [hl, hr] at h; cases h
    | ok rv =>
      rw [hl, hr] at h
      cases hresp : mkResponse lv with
      | error _ => simp only [bind, Except.bind, Resolver.apply, hresp] at h; cases h
      | ok resp =>
        simp only [bind, Except.bind, Resolver.apply, hresp] at h
        obtain ⟨a, rfl, rfl⟩ := mkResponse_ok_term lv resp hresp
        obtain ⟨m, hm⟩ := add_response [a] rv o h
        exact ⟨a, rv, m, rfl, rfl, hm⟩

theorem describe_tilde (ops : OpTable) (l : Expr) (op : Token) (r : Expr)
    (hop : lookupOp ops op.kind = some .tilde) (m : ModelV) (h : describe ops (.binary l op r) = .ok m) :
    ∃ a rv, resolve ops l = .ok (.c (.term [a])) ∧ resolve ops r = .ok rv ∧
      m.resp = some [a] ∧ m.common = rhsCommon rv ∧ m.group = rhsGroup rv := by
  simp only [describe, bind, Except.bind, pure, Except.pure] at h
  split at h
  · simp at h
  · rename_i o ho
    obtain ⟨a, rv, m', hl, hr, rfl, h1, h2, h3⟩ := resolve_tilde ops l op r hop o ho
    simp only [Except.ok.injEq] at h
    subst h
    exact ⟨a, rv, hl, hr, h1, h2, h3⟩

theorem hasTilde_flat (ops : OpTable) : ∀ (e : Expr), hasTilde ops e = true →
    ∃ t ∈ e.flat, lookupOp ops t.kind = some .tilde
  | .grouping _ e _, h => by
    simp only [hasTilde] at h
    obtain ⟨t, ht, hk⟩ := hasTilde_flat ops e h
    exact ⟨t, by simp [Expr.flat, ht], hk⟩
  | .binary l op r, h => by
    simp only [hasTilde, Bool.or_eq_true, beq_iff_eq] at h
    rcases h with (h | h) | h
    · exact ⟨op, by simp [Expr.flat], h⟩
    · obtain ⟨t, ht, hk⟩ := hasTilde_flat ops l h
      exact ⟨t, by simp [Expr.flat, ht], hk⟩
    · obtain ⟨t, ht, hk⟩ := hasTilde_flat ops r h
      exact ⟨t, by simp [Expr.flat, ht], hk⟩
  | .unary _ r, h => by
    simp only [hasTilde] at h
    obtain ⟨t, ht, hk⟩ := hasTilde_flat ops r h
    exact ⟨t, by simp [Expr.flat, ht], hk⟩
  | .call .., h => by simp [hasTilde] at h
  | .brace .., h => by simp [hasTilde] at h
  | .variable .., h => by simp [hasTilde] at h
  | .subset .., h => by simp [hasTilde] at h
  | .quoted .., h => by simp [hasTilde] at h
  | .literal .., h => by simp [hasTilde] at h
  | .assign .., h => by simp [hasTilde] at h

end FormulaeModel.Resolver
