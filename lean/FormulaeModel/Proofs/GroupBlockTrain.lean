import FormulaeModel.Proofs.GroupBlockCells
/-
One grouping component after training (`trainComp` with
`forced = true`, `isResponse = false`): which values it read, which levels it remembered and in
which order, its contrast matrix, and its data — the rows of the contrast matrix picked by the
position of each value among the levels; for the complete (treatment, full) coding these are the
rows of the complete indicator matrix.
-/
namespace FormulaeModel.Design

theorem treatmentFull_row (levels : List Level) (g : Nat) (hg : g < levels.length) :
    rowOfInts ((treatmentFull levels).rows.getD g []) = unitE levels.length g :=
  congrArg rowOfInts (treatmentFull_getD levels g hg)

/-- complete coding: every row is the indicator row of the position of the value -/
theorem codeRows_treatmentFull (levels : List Level) (xs : List (Option Level)) (m : Matrix)
    (h : codeRows (treatmentFull levels) levels xs = .ok m) :
    m.length = xs.length ∧ ∀ r (hr : r < m.length), ∃ l g, xs[r]? = some (some l) ∧
      indexOf? l levels = some g ∧ g < levels.length ∧ m[r] = unitE levels.length g := by
  obtain ⟨hl, hall⟩ := codeRows_rows _ _ _ _ h
  refine ⟨hl, ?_⟩
  intro r hr
  obtain ⟨l, g, h1, h2, h3, h4⟩ := hall r hr
  exact ⟨l, g, h1, h2, h3, by rw [h4, treatmentFull_row levels g h3]⟩

theorem codeRows_treatmentFull_eq (levels : List Level) (xs : List (Option Level)) (m : Matrix)
    (h : codeRows (treatmentFull levels) levels xs = .ok m) : m = xs.map (indRow levels) := by
  obtain ⟨hl, hall⟩ := codeRows_treatmentFull _ _ _ h
  apply List.ext_getElem (by simpa using hl)
  intro r hr hr'
  obtain ⟨l, g, hx, hg, _, hrow⟩ := hall r hr
  rw [List.getElem?_eq_getElem (by omega), Option.some.injEq] at hx
  rw [hrow, List.getElem_map, hx]
  exact (indRow_some levels (some l) g hg).symm

/-- the order of the levels: the declared order of an ordered Categorical, sorted otherwise -/
def LevelOrder (declared : Option (List Level)) (xs : List (Option Level)) (levels : List Level) : Prop :=
  match declared with
  | some ls => levels = ls
  | none => sortLevels (xs.filterMap id) = some levels

def declaredOf : Option (Bool × List String) → Option (List Level)
  | some (true, cats) => some (cats.map Level.s)
  | _ => none

theorem declaredOf_eq (d : Option (Bool × List String)) : declaredOf d = declaredLevels d := by
  rcases d with _ | ⟨_ | _, _⟩ <;> rfl

theorem LevelOrder.of_levelsFor {declared : Option (List Level)} {xs : List (Option Level)}
    {levels : List Level} (h : levelsFor declared xs = .ok levels) : LevelOrder declared xs levels := by
  unfold levelsFor at h
  cases declared with
  | some d => exact ((pure_ok _ _).1 h).symm
  | none =>
    cases hsl : sortLevels (xs.filterMap id) with
    | none => rw [hsl] at h; cases h
    | some l => rw [hsl] at h; exact (pure_ok _ _).1 h ▸ hsl

theorem codeWith_spec (declared : Option (List Level)) (c : Contrast) (full : Bool)
    (xs : List (Option Level)) (levels : List Level) (cm : ContrastMatrix) (m : Matrix)
    (h : codeWith declared c full xs = .ok (levels, cm, m)) :
    codeRows cm levels xs = .ok m ∧ c.code full levels = .ok cm ∧ LevelOrder declared xs levels := by
  simp only [codeWith, bind_ok, pure_ok, Prod.mk.injEq] at h
  obtain ⟨ls, hls, cm', hcm, m', hm, rfl, rfl, rfl⟩ := h
  exact ⟨hm, hcm, .of_levelsFor hls⟩

theorem evalCategoric_spec (name : String) (xs : List (Option Level)) (d : Option (Bool × List String))
    (full : Bool) (levels : List Level) (cm : ContrastMatrix) (m : Matrix)
    (h : evalCategoric name xs d full = .ok (levels, cm, m)) :
    codeRows cm levels xs = .ok m ∧ (Contrast.treatment none).code full levels = .ok cm ∧
      LevelOrder (declaredOf d) xs levels :=
  declaredOf_eq d ▸ codeWith_spec _ _ _ _ _ _ _ (evalCategoric_codeWith _ _ _ _ _ h).2

theorem evalBox_spec (b : Box) (full : Bool) (levels : List Level) (cm : ContrastMatrix) (m : Matrix)
    (h : evalBox b full = .ok (levels, cm, m)) :
    codeRows cm levels b.data = .ok m ∧ (b.contrast.getD (.treatment none)).code full levels = .ok cm ∧
      LevelOrder b.levels b.data levels :=
  codeWith_spec _ _ _ _ _ _ _ (evalBox_eq b full ▸ h)

/-- the value of the component: the evaluated call, or the data-frame column -/
def factorVal (env : Env) (name : String) (e : Expr) : M Val :=
  if isCallLike e then (posOnly (evalArg env e none)).map (·.1)
  else match env.frame.col? (varColRef name e).1 with
    | some c => pure (colVal c)
    | none => .error (.keyError (varColRef name e).1)

/-- the values as levels, row by row (a numeric grouping variable must hold integers) -/
def valLevels : Val → M (List (Option Level))
  | .vec xs _ => numericLevels xs
  | .lvec xs _ => pure xs
  | .box b => pure b.data
  | _ => .error (.unmodelled "grouping value")

/-- declared order of the levels, if the value carries one -/
def valDeclared : Val → Option (List Level)
  | .lvec _ d => declaredOf d
  | .box b => b.levels
  | _ => none

/-- the contrast the value asks for (`C(g, Sum)`); plain variables: Treatment -/
def valContrast : Val → Contrast
  | .box b => b.contrast.getD (.treatment none)
  | _ => .treatment none

/-- what a grouping component is after training -/
structure FactorComp (name : String) (e : Expr) (full : Bool) (v : Val) (xs : List (Option Level))
    (o : CompOut) : Prop where
  kind : o.st.kind = .categoric
  name_eq : o.st.name = name
  expr_eq : o.st.expr = e
  order : LevelOrder (valDeclared v) xs o.st.levels
  coded : ∃ cm, o.st.contrast = some cm ∧ (valContrast v).code full o.st.levels = .ok cm ∧
    codeRows cm o.st.levels xs = .ok o.value ∧ o.labels = some (categoricLabels name cm)

/-- a component built from coded data (`evalCategoric_spec`, `evalBox_spec`) -/
theorem FactorComp.of_spec {name : String} {e : Expr} {full : Bool} {v : Val} {xs : List (Option Level)}
    {st : CompState} {cm : ContrastMatrix} {m : Matrix} (hk : st.kind = .categoric)
    (hn : st.name = name) (he : st.expr = e) (hc : st.contrast = some cm)
    (h : codeRows cm st.levels xs = .ok m ∧ (valContrast v).code full st.levels = .ok cm ∧
      LevelOrder (valDeclared v) xs st.levels) :
    FactorComp name e full v xs ⟨st, m, some (categoricLabels name cm)⟩ :=
  ⟨hk, hn, he, h.2.2, cm, hc, h.2.1, h.1, rfl⟩

theorem valLeaf_factor {st : CompState} (hf : st.forced = true) {name : String} (hn : st.name = name)
    {full : Bool} {v : Val} {o : CompOut} (h : valLeaf st name full v = .ok o) :
    ∃ xs, valLevels v = .ok xs ∧ FactorComp name st.expr full v xs o := by
  cases v <;> simp only [valLeaf, hf, if_true, reduceCtorEq] at h
  case vec =>
    rw [bind_ok] at h
    obtain ⟨ls, hls, h⟩ := h
    obtain ⟨levels, cm, m, hcat, rfl⟩ := catLeaf_ok.1 h
    exact ⟨ls, hls, .of_spec rfl hn rfl rfl (evalCategoric_spec _ _ _ _ _ _ _ hcat)⟩
  case lvec =>
    obtain ⟨levels, cm, m, hcat, rfl⟩ := catLeaf_ok.1 h
    exact ⟨_, rfl, .of_spec rfl hn rfl rfl (evalCategoric_spec _ _ _ _ _ _ _ hcat)⟩
  case box =>
    obtain ⟨levels, cm, m, hcat, rfl⟩ := catLeaf_ok.1 h
    exact ⟨_, rfl, .of_spec rfl hn rfl rfl (evalBox_spec _ _ _ _ _ hcat)⟩

theorem compOfVal_factor (n : Nat) (name : String) (e : Expr) (full : Bool) (v : Val) (ts : TS)
    (o : CompOut) (h : compOfVal n name e true false full v ts = .ok o) :
    ∃ xs, valLevels v = .ok xs ∧ FactorComp name e full v xs o := by
  cases v <;> simp only [compOfVal, offsetLeaf, Bool.false_eq_true, if_false, Bool.not_false, if_true,
    reduceCtorEq] at h
  all_goals exact valLeaf_factor rfl rfl h

theorem compOfCol_factor (name : String) (e : Expr) (full : Bool) (reference : Option String)
    (c : Column) (o : CompOut) (h : compOfCol name e true false full reference c = .ok o) :
    ∃ xs, valLevels (colVal c) = .ok xs ∧ FactorComp name e full (colVal c) xs o := by
  simp only [compOfCol] at h
  split at h
  · rename_i hv
    exact hv ▸ valLeaf_factor rfl rfl h
  · rename_i hv
    exact hv ▸ valLeaf_factor rfl rfl h
  · cases h

/-- one grouping component (kind forced to categoric): it reads `factorVal`, remembers the
levels in the declared / sorted order and its data are the rows of its contrast matrix -/
theorem trainComp_factor (env : Env) (name : String) (e : Expr) (full : Bool) (o : CompOut)
    (h : trainComp env name e true false full = .ok o) :
    ∃ v xs, factorVal env name e = .ok v ∧ valLevels v = .ok xs ∧ FactorComp name e full v xs o := by
  rcases (trainComp_ok _ _ _ _ _ _ _).1 h with ⟨hc, v, ts, hv, h⟩ | ⟨hc, c, hcol, h⟩
  · obtain ⟨xs, hxs, hf⟩ := compOfVal_factor _ _ _ _ _ _ _ h
    exact ⟨v, xs, by simp [factorVal, hc, (posOnly_ok _ _ _).2 hv, Except.map], hxs, hf⟩
  · obtain ⟨xs, hxs, hf⟩ := compOfCol_factor _ _ _ _ _ _ h
    exact ⟨colVal c, xs, by simp [factorVal, hc, hcol, pure, Except.pure], hxs, hf⟩

theorem factorVal_var_contrast (env : Env) (name : String) (e : Expr) (v : Val)
    (hc : isCallLike e = false) (h : factorVal env name e = .ok v) :
    valContrast v = .treatment none := by
  simp only [factorVal, hc, Bool.false_eq_true, if_false] at h
  split at h
  · simp only [pure_ok] at h
    subst h
    rename_i c _
    unfold colVal
    split <;> rfl
  · simp at h

/-- Treatment (any reference), full: the remembered contrast matrix is the complete indicator coding -/
theorem FactorComp.treatment {name : String} {e : Expr} {v : Val} {xs : List (Option Level)}
    {o : CompOut} (hf : FactorComp name e true v xs o) (ht : ∃ r, valContrast v = .treatment r) :
    o.st.contrast = some (treatmentFull o.st.levels) := by
  obtain ⟨cm, h1, h2, h3, h4⟩ := hf.coded
  obtain ⟨r0, hr0⟩ := ht
  rw [hr0] at h2
  simp only [Contrast.code, pure_ok] at h2
  subst h2
  exact h1

/-- complete indicator coding: every row of the data is the indicator row of the position of its
value among the levels; the labels are `name[level]` -/
theorem FactorComp.indicator {name : String} {e : Expr} {full : Bool} {v : Val}
    {xs : List (Option Level)} {o : CompOut} (hf : FactorComp name e full v xs o)
    (ht : o.st.contrast = some (treatmentFull o.st.levels)) :
    o.labels = some (o.st.levels.map (fun l => name ++ "[" ++ l.label ++ "]")) ∧
    o.value.length = xs.length ∧
    ∀ r (hr : r < o.value.length), ∃ l g, xs[r]? = some (some l) ∧
      indexOf? l o.st.levels = some g ∧ g < o.st.levels.length ∧
      o.value[r] = unitE o.st.levels.length g := by
  obtain ⟨cm, h1, h2, h3, h4⟩ := hf.coded
  rw [ht] at h1
  simp only [Option.some.injEq] at h1
  subst h1
  obtain ⟨hl, hall⟩ := codeRows_treatmentFull _ _ _ h3
  refine ⟨?_, hl, hall⟩
  rw [h4]
  simp [categoricLabels, treatmentFull, List.map_map, Function.comp_def]

theorem FactorComp.value_eq {name : String} {e : Expr} {full : Bool} {v : Val}
    {xs : List (Option Level)} {o : CompOut} (hf : FactorComp name e full v xs o)
    (ht : o.st.contrast = some (treatmentFull o.st.levels)) :
    o.value = xs.map (indRow o.st.levels) := by
  obtain ⟨cm, h1, _, h3, _⟩ := hf.coded
  rw [ht] at h1
  cases h1
  exact codeRows_treatmentFull_eq _ _ _ h3

end FormulaeModel.Design
