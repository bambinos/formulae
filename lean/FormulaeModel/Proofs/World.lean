import FormulaeModel.Proofs.EvalState
import FormulaeModel.Proofs.CompForm
/-
Helper lemmas for C07: prediction on a well-formed design returns the state it was given (and,
forgetting the state, is `newComp` / `newTerm` / `newGroup`); building a design gives a
well-formed one.  Stated as postconditions (`Post`) of the `Except` computations.
-/
namespace FormulaeModel.World
open FormulaeModel.Design

theorem compWf_iff (st : CompState) :
    compWf st = true ↔ (isCallLike st.expr = true → shapeOf st.expr st.tstate = true) := by
  unfold compWf
  cases st.expr <;> simp [isCallLike]

theorem newCompS_eq (st : CompState) (env : Env) (mode : UnseenMode) :
    newCompS st env mode =
      if isCallLike st.expr then newCallS st env mode else (newComp st env mode).map (fun o => (o, st)) := by
  unfold newCompS
  cases st.expr <;> rfl

/-- `newCallS` and the call form of `newComp` are the same case analysis (kind, remembered
constant, evaluated value); in every case the first is the second with a state paired on. -/
theorem newCallS_out (st : CompState) (env : Env) (mode : UnseenMode)
    (hc : isCallLike st.expr = true) : (newCallS st env mode).map (·.1) = newComp st env mode := by
  rw [newComp_call st env mode hc]
  unfold newCallS
  generalize posOnly (evalArg env st.expr (some st.tstate)) = r
  cases hk : st.kind
  case offset =>
    cases st.offsetConst
    · rcases r with _ | ⟨v, ts⟩
      · rfl
      · cases v <;> rfl
    · rfl
  case proportion =>
    cases st.propConst
    · cases st.propTrialsName.bind env.frame.col? with
      | none => rfl
      | some c => dsimp only; cases colVal c <;> rfl
    · rfl
  case numeric =>
    rcases r with _ | ⟨v, ts⟩
    · rfl
    · cases v <;> rfl
  case categoric =>
    rcases r with _ | ⟨v, ts⟩
    · rfl
    · cases v
      case vec xs _ =>
        show Except.map _ (numericLevels xs >>= fun l => newCategoric st mode l >>= _) = (numericLevels xs >>= _)
        cases numericLevels xs
        · rfl
        · exact map_fst_pair _ _
      case lvec xs _ => exact map_fst_pair _ _
      case box b => exact map_fst_pair _ _
      all_goals rfl

theorem newCompS_out (st : CompState) (env : Env) (mode : UnseenMode) :
    (newCompS st env mode).map (·.1) = newComp st env mode := by
  rw [newCompS_eq]
  split
  · exact newCallS_out st env mode (by assumption)
  · cases newComp st env mode <;> rfl

theorem newTermS_out (t : TermState) (env : Env) (mode : UnseenMode) :
    (newTermS t env mode).map (·.1) = newTerm t env mode := by
  unfold newTermS newTerm
  rw [← mapM_map_fst (fun c => newCompS_out c env mode) t.comps]
  cases t.comps.mapM (fun c => newCompS c env mode) with
  | error e => rfl
  | ok outs => simp [Except.map, Function.comp_def, bind, Except.bind, pure, Except.pure]

theorem newGroupS_out (g : GroupState) (env : Env) (mode : UnseenMode) :
    (newGroupS g env mode).map (·.1) = newGroup g env mode := by
  unfold newGroupS newGroup
  rw [← newTermS_out g.factor env mode]
  cases g.expr with
  | none => cases newTermS g.factor env mode <;> rfl
  | some t =>
    dsimp only
    rw [← newTermS_out t env mode]
    cases newTermS t env mode with
    | error e => rfl
    | ok r => cases newTermS g.factor env mode <;> rfl

theorem posOnly_pure (env : Env) (e : Expr) (t : TS) (hs : shapeOf e t = true) :
    Post (posOnly (evalArg env e (some t))) (fun p => p.2 = t) := by
  intro ⟨v, t'⟩ h
  obtain ⟨k, hk⟩ := posOnly_ok h
  exact evalArg_pure env e t k v t' hs hk

theorem newCallS_pure (st : CompState) (env : Env) (mode : UnseenMode)
    (hs : shapeOf st.expr st.tstate = true) : Post (newCallS st env mode) (fun p => p.2 = st) := by
  have hp := posOnly_pure env st.expr st.tstate hs
  unfold newCallS
  generalize posOnly (evalArg env st.expr (some st.tstate)) = r at hp
  -- wherever `r` is consulted it gives back `st.tstate`, and `{ st with tstate := st.tstate }` is `st`
  have hr : ∀ f : Val × TS → M ((Matrix × Bool) × CompState),
      (∀ v, Post (f (v, st.tstate)) (fun p => p.2 = st)) → Post (r >>= f) (fun p => p.2 = st) := by
    intro f hb
    rw [post_bind]
    rintro ⟨v, ts⟩ h
    cases hp _ h
    exact hb v
  dsimp only
  split
  · split
    · exact post_pure.2 rfl
    · refine hr _ fun v => ?_
      cases v <;> simp only [post_pure, post_error]
  · -- a proportion is never evaluated: every leaf returns `st` or fails
    repeat' split
    all_goals simp only [post_pure, post_error]
  · refine hr _ fun v => ?_
    dsimp only
    split <;> cases v <;> simp only [post_pure, post_error, post_bind, post_true]

theorem newCompS_pure (st : CompState) (env : Env) (mode : UnseenMode) (hw : compWf st = true) :
    Post (newCompS st env mode) (fun p => p.2 = st) := by
  rw [newCompS_eq]
  split
  · exact newCallS_pure st env mode ((compWf_iff st).1 hw (by assumption))
  · exact post_map.2 fun _ _ => rfl

theorem newTermS_pure (t : TermState) (env : Env) (mode : UnseenMode) (hw : termWf t = true) :
    Post (newTermS t env mode) (fun p => p.2 = t) := by
  unfold newTermS
  rw [post_bind]
  refine (post_mapM_snd fun c hc => newCompS_pure c env mode ?_).mono fun outs h => ?_
  · exact List.all_eq_true.1 hw c hc
  · rw [post_pure, h]

theorem newGroupS_pure (g : GroupState) (env : Env) (mode : UnseenMode) (hw : groupWf g = true) :
    Post (newGroupS g env mode) (fun p => p.2 = g) := by
  obtain ⟨name, expr, factor, groups, kind⟩ := g
  unfold groupWf at hw
  rw [Bool.and_eq_true] at hw
  have hf := newTermS_pure factor env mode hw.2
  unfold newGroupS
  cases expr with
  | none =>
    simp only [post_bind, post_pure]
    exact hf.mono fun q h => by rw [h]
  | some t =>
    simp only [post_bind, post_pure]
    exact (newTermS_pure t env mode hw.1).mono fun p h => hf.mono fun q h' => by rw [h, h']

theorem evalCommonS_pure (d : DesignState) (frame : Frame) (mode : UnseenMode) (hw : d.wf = true) :
    Post (evalCommonS d frame mode) (fun p => p.2 = d) := by
  unfold DesignState.wf at hw
  rw [Bool.and_eq_true, List.all_eq_true] at hw
  unfold evalCommonS
  split
  · exact post_pure.2 rfl
  · simp only [post_bind, post_pure]
    refine (post_mapM_snd fun p hp => ?_).mono fun parts h => by rw [h]
    have hp := hw.1 p hp
    obtain ⟨nm, _ | t⟩ := p
    · exact post_pure.2 rfl
    · simp only [post_bind, post_pure]
      exact (newTermS_pure t _ mode hp).mono fun q h => by rw [h]

theorem evalGroupS_pure (d : DesignState) (frame : Frame) (mode : UnseenMode) (hw : d.wf = true) :
    Post (evalGroupS d frame mode) (fun p => p.2 = d) := by
  unfold DesignState.wf at hw
  rw [Bool.and_eq_true, List.all_eq_true, List.all_eq_true] at hw
  unfold evalGroupS
  split
  · exact post_pure.2 rfl
  · simp only [post_bind, post_pure]
    refine (post_mapM_snd fun p hp => ?_).mono fun parts h => by rw [h]
    simp only [post_bind, post_pure]
    exact (newGroupS_pure p.1 _ mode (hw.2 p hp)).mono fun q h => by rw [h]

/-- the leaves return the state they are given, updated in fields other than `expr` and `tstate` -/
theorem valLeaf_st (st : CompState) (name : String) (full : Bool) (v : Val) :
    Post (valLeaf st name full v) (fun out => out.st.expr = st.expr ∧ out.st.tstate = st.tstate) := by
  unfold valLeaf catLeaf
  cases v <;> simp only [post_bind, post_pure, post_error, post_true, post_ite, and_self, implies_true]

theorem compOfVal_st (n : Nat) (name : String) (e : Expr) (forced isResponse full : Bool) (v : Val)
    (ts : TS) : Post (compOfVal n name e forced isResponse full v ts)
      (fun out => out.st.expr = e ∧ out.st.tstate = ts) := by
  cases v <;> simp only [compOfVal]
  case vec | lvec | box => exact valLeaf_st _ name full _
  all_goals simp only [offsetLeaf, post_pure, post_error, post_ite, and_self, implies_true]

theorem compOfCol_st (name : String) (e : Expr) (forced isResponse full : Bool)
    (reference : Option String) (c : Column) :
    Post (compOfCol name e forced isResponse full reference c) (fun out => out.st.expr = e) := by
  unfold compOfCol
  split
  · exact (valLeaf_st _ name full _).mono fun _ h => h.1
  · split
    · -- `y[level]`: however the levels are found, the state returned is an update of one whose `expr` is `e`
      repeat' split
      all_goals simp only [post_bind, post_pure, post_true, post_error]
    · exact (valLeaf_st _ name full _).mono fun _ h => h.1
  · exact post_error.2 trivial

theorem trainComp_wf (env : Env) (name : String) (e : Expr) (forced isResponse full : Bool) :
    Post (trainComp env name e forced isResponse full) (fun out => compWf out.st = true) := by
  cases hc : isCallLike e
  · rw [trainComp_var env name e forced isResponse full hc]
    split
    · exact post_error.2 trivial
    · refine (compOfCol_st _ _ _ _ _ _ _).mono fun out he => (compWf_iff _).2 fun h => ?_
      rw [he, hc] at h
      cases h
  · rw [trainComp_call env name e forced isResponse full hc, post_bind]
    rintro ⟨v, ts⟩ hr
    obtain ⟨k, hk⟩ := posOnly_ok hr
    refine (compOfVal_st _ _ _ _ _ _ _ _).mono fun out ⟨he, hts⟩ => (compWf_iff _).2 fun _ => ?_
    rw [he, hts]
    exact evalArg_shape env e none k v ts hk

theorem trainTerm_wf (env : Env) (table : List (String × Expr)) (spec : TermSpec)
    (forced isResponse : Bool) :
    Post (trainTerm env table spec forced isResponse) (fun out => termWf out.st = true) := by
  unfold trainTerm
  simp only [post_bind, post_pure]
  refine (post_mapM fun c _ => post_bind.2 fun e _ => trainComp_wf env c.1 e forced isResponse c.2).mono
    fun outs h => ?_
  simpa [termWf] using h

theorem trainGroup_wf (env : Env) (table : List (String × Expr)) (spec : GroupSpec) :
    Post (trainGroup env table spec) (fun out => groupWf out.st = true) := by
  unfold trainGroup
  simp only [post_bind]
  refine (trainTerm_wf env table _ true false).mono fun f hf => ?_
  cases spec.expr with
  | none => simp [post_pure, groupWf, optTermWf, hf]
  | some ts =>
    simp only [post_bind, post_pure]
    exact (trainTerm_wf env table ts false false).mono fun t ht => by simp [groupWf, optTermWf, hf, ht]

theorem buildDesign_wf (spec : BuildSpec) (frame : Frame) :
    Post (buildDesign spec frame) (fun p => p.1.wf = true) := by
  unfold buildDesign trainCommon trainGroups
  simp only [post_bind, post_pure]
  -- a `DesignState` keeps no state of the response (prediction never evaluates it)
  refine post_true.2 trivial |>.mono fun resp _ => ?_
  refine (post_mapM (Q := fun p => optTermWf (p.2.map (·.st)) = true) fun ts _ => ?_).mono fun common hc => ?_
  · simp only [post_ite, post_bind, post_pure]
    exact ⟨fun _ => rfl, fun _ => trainTerm_wf _ _ ts false false⟩
  · refine (post_mapM fun g _ => trainGroup_wf _ _ g).mono fun group hg => ?_
    simp only [DesignState.wf, List.all_map, Bool.and_eq_true, List.all_eq_true, Function.comp]
    exact ⟨hc, hg⟩

theorem buildDesign_train (spec : BuildSpec) (frame : Frame) :
    Post (buildDesign spec frame) (fun p => p.1.train = p.2) := by
  unfold buildDesign
  simp only [post_bind, post_pure, post_true]

end FormulaeModel.World
