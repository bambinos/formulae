import FormulaeModel.Spec.C06
import FormulaeModel.Proofs.RowsBasic
import FormulaeModel.Proofs.ProductOrder
/-
Shared by the proofs about terms and stacked matrices: the interaction product folded over the
components of a term, column stacking, lists of blocks trained or predicted one by one and stacked.
-/
namespace FormulaeModel.Design
open FormulaeModel.Spec.C06

theorem reduceMatrices_induct (P : Matrix → Prop)
    (hP : ∀ x y, P x → P y → P (interactionMatrix x y)) (ms : List Matrix)
    (h0 : ms = [] → P []) (h : ∀ m ∈ ms, P m) : P (reduceMatrices ms) := by
  cases ms with
  | nil => exact h0 rfl
  | cons m ms =>
    obtain ⟨hm, hms⟩ := List.forall_mem_cons.1 h
    clear h h0
    show P (ms.foldl interactionMatrix m)
    induction ms generalizing m with
    | nil => exact hm
    | cons a ms ih =>
      obtain ⟨ha, hms'⟩ := List.forall_mem_cons.1 hms
      exact ih _ (hP m a hm ha) hms'

theorem reduceMatrices_length (ms : List Matrix) (hne : ms ≠ []) (n : Nat) (h : ∀ a ∈ ms, a.length = n) :
    (reduceMatrices ms).length = n :=
  reduceMatrices_induct (·.length = n)
    (fun x y hx hy => by rw [interactionMatrix_length, hx, hy, Nat.min_self]) ms
    (fun h0 => absurd h0 hne) h

theorem getD_interactionMatrix (x y : Matrix) (i : Nat) :
    (interactionMatrix x y).getD i [] = rowProd (x.getD i []) (y.getD i []) := by
  simp only [interactionMatrix, List.getD_eq_getElem?_getD, List.getElem?_zipWith]
  cases x[i]? <;> cases y[i]? <;> simp [rowProd]

theorem selectRows_interactionMatrix (x y : Matrix) (is : List Nat) :
    selectRows (interactionMatrix x y) is = interactionMatrix (selectRows x is) (selectRows y is) := by
  induction is with
  | nil => rfl
  | cons i is ih =>
    simp only [selectRows, List.map_cons, interactionMatrix, List.zipWith_cons_cons] at ih ⊢
    rw [ih]
    congr 1
    exact getD_interactionMatrix x y i

theorem selectRows_reduceMatrices (ms : List Matrix) (hne : ms ≠ []) (is : List Nat) :
    selectRows (reduceMatrices ms) is = reduceMatrices (ms.map (selectRows · is)) := by
  cases ms with
  | nil => exact absurd rfl hne
  | cons m ms =>
    clear hne
    show selectRows (ms.foldl interactionMatrix m) is =
      (ms.map (selectRows · is)).foldl interactionMatrix (selectRows m is)
    induction ms generalizing m with
    | nil => rfl
    | cons a ms ih => simp only [List.foldl_cons, List.map_cons]; rw [ih, selectRows_interactionMatrix]

theorem selectRows_onesCol (n : Nat) (is : List Nat) (h : ∀ i ∈ is, i < n) :
    selectRows (onesCol n) is = onesCol is.length :=
  pick_replicate is _ _ n h

theorem hstack_length (ms : List Matrix) (n : Nat) (h : ∀ m ∈ ms, m.length = n) :
    (hstack ms n).length = n := by
  induction ms with
  | nil => simp [hstack]
  | cons m ms ih =>
    obtain ⟨hm, hms⟩ := List.forall_mem_cons.1 h
    simp only [hstack, List.length_zipWith, hm, ih hms, Nat.min_self]

theorem hstack_mem (m : Matrix) (ms : List Matrix) (n : Nat) (r : List Entry)
    (h : r ∈ hstack (m :: ms) n) : ∃ a ∈ m, ∃ b ∈ hstack ms n, r = a ++ b := by
  obtain ⟨i, hi, rfl⟩ := List.mem_iff_getElem.1 h
  simp only [hstack, List.length_zipWith] at hi
  exact ⟨m[i]'(by omega), List.getElem_mem _, (hstack ms n)[i]'(by omega), List.getElem_mem _, by
    simp [hstack]⟩

theorem selectRows_zipWith_append (a b : Matrix) (is : List Nat) (hab : a.length = b.length)
    (his : ∀ i ∈ is, i < a.length) :
    selectRows (List.zipWith (· ++ ·) a b) is =
      List.zipWith (· ++ ·) (selectRows a is) (selectRows b is) := by
  induction is with
  | nil => rfl
  | cons i is ih =>
    obtain ⟨hi, his'⟩ := List.forall_mem_cons.1 his
    simp only [selectRows, List.map_cons, List.zipWith_cons_cons] at ih ⊢
    rw [ih his']
    congr 1
    simp [List.getD_eq_getElem?_getD, List.getElem?_zipWith, List.getElem?_eq_getElem hi,
      List.getElem?_eq_getElem (hab ▸ hi)]

theorem selectRows_hstack (ms : List Matrix) (n : Nat) (is : List Nat) (h : ∀ m ∈ ms, m.length = n)
    (his : ∀ i ∈ is, i < n) :
    selectRows (hstack ms n) is = hstack (ms.map (selectRows · is)) is.length := by
  induction ms with
  | nil => exact pick_replicate is _ _ n his
  | cons m ms ih =>
    obtain ⟨hm, hms⟩ := List.forall_mem_cons.1 h
    simp only [hstack, List.map_cons]
    rw [selectRows_zipWith_append _ _ is (by rw [hm, hstack_length ms n hms]) (fun i hi => hm ▸ his i hi),
      ih hms]

theorem hstack_mapM_rows {ε α β : Type} (train : α → Except ε β) (new : β → Except ε Matrix)
    (data : β → Matrix) (n k : Nat) (is : List Nat) (his : ∀ i ∈ is, i < n) (hk : k = is.length)
    (specs : List α) (parts : List β) (h : specs.mapM train = .ok parts)
    (hstep : ∀ s ∈ specs, ∀ p, train s = .ok p →
      new p = .ok (selectRows (data p) is) ∧ (data p).length = n) :
    (do let ms ← parts.mapM new; pure (hstack ms k)) =
      .ok (selectRows (hstack (parts.map data) n) is) := by
  rw [mapM_ok_map train new _ specs parts h (fun s hs p hp => (hstep s hs p hp).1), ok_bind, hk,
    selectRows_hstack _ n is _ his, List.map_map]
  · rfl
  · exact List.forall_mem_map.2 (mapM_forall train _ specs parts h fun s hs p hp => (hstep s hs p hp).2)

theorem hstack_mapM_perm {ε α β : Type} (train train' : α → Except ε β) (perm : β → β)
    (data : β → Matrix) (n : Nat) (sigma : List Nat) (hlt : ∀ i ∈ sigma, i < n) (hlen : sigma.length = n)
    (specs : List α) (parts : List β) (h : specs.mapM train = .ok parts)
    (hstep : ∀ s ∈ specs, ∀ p, train s = .ok p → train' s = .ok (perm p) ∧
      (data p).length = n ∧ data (perm p) = selectRows (data p) sigma) :
    specs.mapM train' = .ok (parts.map perm) ∧
      hstack ((parts.map perm).map data) n = selectRows (hstack (parts.map data) n) sigma := by
  have hall := mapM_forall train _ specs parts h fun s hs p hp => (hstep s hs p hp).2
  refine ⟨mapM_ok_of train train' perm specs parts h fun s hs p hp => (hstep s hs p hp).1, ?_⟩
  rw [selectRows_hstack _ n sigma (List.forall_mem_map.2 fun p hp => (hall p hp).1) hlt, hlen,
    List.map_map, List.map_map]
  exact congrArg (hstack · n) (List.map_congr_left fun p hp => (hall p hp).2)

end FormulaeModel.Design
