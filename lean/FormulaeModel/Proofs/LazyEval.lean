import FormulaeModel.Proofs.LazyResolve
import FormulaeModel.Proofs.ExceptLemmas
/-
C12 on the Python alphabet: the lazy tree exists (documented tables), has Python's value (chains
excepted) and prints as the tokens, grouping removed, written with single spaces.
-/
namespace FormulaeModel.Lazy
open FormulaeModel.Spec.C12

theorem literal_ok (t : Token) (h : pyLiteralOk t = true) :
    ∃ l, resolveLiteral t = .ok l ∧ (∀ env, l.eval env = pyLiteralVal t) ∧
      ∀ b ts, canonGo b (t :: ts) = l.str ++ canonGo true ts := by
  obtain ⟨k, lx⟩ := t
  cases k with
  | NUMBER =>
    have hn : (numberLit lx).isSome = true := by
      have h : pyNumberOk lx = true := h
      unfold pyNumberOk at h
      split at h
      · exact (Bool.and_eq_true_iff.mp h).1
      · exact h
      · cases h
    cases hv : numberLit lx with
    | none => simp [hv] at hn
    | some v =>
      exact ⟨.value v none, by simp [resolveLiteral, hv], by simp [Lazy.eval, pyLiteralVal, hv],
        by simp [canonGo, numberShown, hv, Lazy.str]⟩
  | PYTHON_LITERAL =>
    have h : (lx == "True" || lx == "False" || lx == "None") = true := h
    simp only [Bool.or_eq_true, beq_iff_eq] at h
    rcases h with (h | h) | h <;> subst h <;>
      exact ⟨_, rfl, fun _ => rfl, by simp [canonGo, Lazy.str, LitVal.pyStr]⟩
  | STRING => exact ⟨_, rfl, fun _ => rfl, by simp [canonGo, Lazy.str]⟩
  | _ => cases h

section
variable (env : Env)

/-- what `LazyCall.eval` passes to the callee -/
def evalPacked (p : LazyArgs × LazyKw) : Except EvalErr (List Val × List (String × Val)) := do
  let xs ← p.1.eval env
  let ks ← p.2.eval env
  pure (xs, ks)

theorem evalPacked_pos (a : Lazy) (la : LazyArgs) (lk : LazyKw) :
    evalPacked env (.cons a la, lk) = (do
      let x ← a.eval env
      let (xs, ks) ← evalPacked env (la, lk)
      pure (x :: xs, ks)) := by
  simp only [evalPacked, LazyArgs.eval]
  cases a.eval env <;> cases la.eval env <;> cases lk.eval env <;> rfl

theorem evalPacked_kw (k : String) (a : Lazy) (lk : LazyKw) :
    evalPacked env (.nil, .cons k a lk) = (do
      let x ← a.eval env
      let (xs, ks) ← evalPacked env (.nil, lk)
      pure (xs, (k, x) :: ks)) := by
  simp only [evalPacked, LazyArgs.eval, LazyKw.eval]
  cases a.eval env <;> cases lk.eval env <;> rfl

theorem pyEvalArgs_last_other (e : Expr) (h : isAssign e = false) :
    pyEvalArgs env (.last e) = (do
      let x ← pyEval env e
      pure ([x], [])) := by
  cases e <;> first | rfl | cases h

theorem pyEvalArgs_more_other (e : Expr) (c : Token) (rest : Args) (h : isAssign e = false) :
    pyEvalArgs env (.more e c rest) = (do
      let x ← pyEval env e
      let (xs, ks) ← pyEvalArgs env rest
      pure (x :: xs, ks)) := by
  cases e <;> first | rfl | cases h

end

theorem canon_binop (k : Kind) (o : BinOp) (h : pyBinOp k = some o) (lx : String)
    (ts : List Token) :
    canonGo true (⟨k, lx⟩ :: ts) = " " ++ pySymbol k ++ " " ++ canonGo false ts := by
  cases k <;> first | (cases h; done) | rfl

theorem canon_unop (k : Kind) (o : UnOp) (h : pyUnOp k = some o) (lx : String)
    (ts : List Token) :
    canonGo false (⟨k, lx⟩ :: ts) = pySymbol k ++ canonGo false ts := by
  cases k <;> first | (cases h; done) | rfl

theorem joinWith_cons (sep a : String) (l : List String) (h : l ≠ []) :
    joinWith sep (a :: l) = a ++ sep ++ joinWith sep l := by
  cases l with
  | nil => exact absurd rfl h
  | cons b l => rfl

open FormulaeModel.Spec.C01 in
/-- One induction, since value and name are read off the same resolved tree. -/
theorem value_and_name_cases : AlphaCases
    (fun e => ∃ t, resolve documentedOps e = .ok t ∧
      (∀ env, chainless e = true → t.eval env = pyEval env e) ∧
      ∀ rest, canonGo false ((ungroup e).flat ++ rest) = t.str ++ canonGo true rest)
    (fun as kw => (kwNames as).Nodup →
      ∃ la lk, resolveArgs documentedOps as = .ok (la, lk) ∧ (kw = true → la = .nil) ∧
        lk.keys = kwNames as ∧
        (∀ env, chainlessArgs as = true → evalPacked env (la, lk) = pyEvalArgs env as) ∧
        (as ≠ .nil → la.strs ++ lk.strs ≠ []) ∧
        ∀ rp rest, rp.kind = .RIGHT_PAREN →
          canonGo false ((ungroupArgs as).flat ++ rp :: rest)
            = joinWith ", " (la.strs ++ lk.strs) ++ (")" ++ canonGo true rest)) where
  binary l op r o ho _ _ ihl ihr := by
    obtain ⟨tl, hl, hle, hlc⟩ := ihl
    obtain ⟨tr, hr, hre, hrc⟩ := ihr
    obtain ⟨fn, hf, hfo, hs⟩ := doc_binary op.kind o ho
    refine ⟨.op2 fn (pySymbol op.kind) tl tr, ?_, fun env hc => ?_, fun rest => ?_⟩
    · simp only [resolve, hf, hl, hr, hs, ok_bind]
      rfl
    · have hc : (chainless l && chainless r && !(isCmp op.kind && isCmpNode l)) = true := hc
      simp only [Bool.and_eq_true, Bool.not_eq_true'] at hc
      simp [Lazy.eval, pyEval, ho, hc.2, hle env hc.1.1, hre env hc.1.2, applyBin, hfo]
    · obtain ⟨k, lx⟩ := op
      simp only [ungroup, Expr.flat, List.append_assoc, List.cons_append, hlc,
        canon_binop k o ho, hrc, Lazy.str, String.append_assoc]
  unary op r o ho _ ih := by
    obtain ⟨tr, hr, hre, hrc⟩ := ih
    obtain ⟨fn, hf, hfo, hs⟩ := doc_unary op.kind o ho
    refine ⟨.op1 fn (pySymbol op.kind) tr, ?_, fun env hc => ?_, fun rest => ?_⟩
    · simp only [resolve, hf, hr, hs, ok_bind]
      rfl
    · simp [Lazy.eval, pyEval, ho, hre env hc, applyUn, hfo]
    · obtain ⟨k, lx⟩ := op
      simp only [ungroup, Expr.flat, List.cons_append, canon_unop k o ho, hrc, Lazy.str,
        String.append_assoc]
  call n lp as rp hn hlp hrp hnd ih := by
    obtain ⟨la, lk, h1, _, _, h4, _, h6⟩ := ih hnd
    refine ⟨.call n.lexeme la lk, ?_, fun env hc => ?_, fun rest => ?_⟩
    · simp only [resolve, h1, ok_bind]
      rfl
    · have hc : (chainless (.variable n) && chainlessArgs as) = true := hc
      have h4 := h4 env (Bool.and_eq_true_iff.mp hc).2
      simp only [Lazy.eval, pyEval]
      cases env.fn n.lexeme with
      | none => rfl
      | some f =>
        simp only [evalPacked] at h4
        rw [← h4]
        simp only [bind, Except.bind, pure, Except.pure]
        cases la.eval env <;> simp
        cases lk.eval env <;> simp
    · simp only [ungroup, Expr.flat, List.append_assoc, List.cons_append, List.nil_append,
        canonGo, hn, hlp, h6 rp rest hrp, Lazy.str, String.append_assoc]
  grouping lp e rp _ _ _ ih := ih
  ident n hn := by
    refine ⟨.var n.lexeme, rfl, fun env _ => ?_, fun rest => ?_⟩
    · simp only [Lazy.eval, pyEval]
      cases env.var n.lexeme <;> rfl
    · simp only [ungroup, Expr.flat, List.cons_append, List.nil_append, canonGo, hn, Lazy.str]
  literal t ht :=
    have ⟨l, h1, h2, h3⟩ := literal_ok t ht
    ⟨l, h1, fun env _ => h2 env, h3 false⟩
  argsNil kw _ := ⟨.nil, .nil, rfl, fun _ => rfl, rfl, fun _ _ => rfl, fun h => absurd rfl h,
    fun rp rest hrp => by simp only [ungroupArgs, Args.flat, List.nil_append, canonGo, hrp]; rfl⟩
  lastKw k eq v kw hk he _ ih _ := by
    obtain ⟨t, h1, h2, h3⟩ := ih
    refine ⟨.nil, .cons k.lexeme t .nil, ?_, fun _ => rfl, rfl, fun env hc => ?_, nofun,
      fun rp rest hrp => ?_⟩
    · simp only [resolveArgs, h1, ok_bind]
      rfl
    · rw [evalPacked_kw, h2 env hc]
      show _ = (do
        let x ← pyEval env v
        pure ([], [(k.lexeme, x)]))
      cases pyEval env v <;> rfl
    · simp only [ungroupArgs, ungroup, Args.flat, Expr.flat, List.cons_append, List.nil_append,
        canonGo, hk, he, h3, hrp, LazyArgs.strs, LazyKw.strs, joinWith, String.append_assoc]
  lastPos e hA _ ih _ := by
    obtain ⟨t, h1, h2, h3⟩ := ih
    refine ⟨.cons t .nil, .nil, ?_, nofun, (kwNames_last_other e hA).symm, fun env hc => ?_, nofun,
      fun rp rest hrp => ?_⟩
    · rw [resolveArgs_last_other _ e hA, h1]
      rfl
    · have hc : chainless e = true := hc
      rw [evalPacked_pos, h2 env hc, pyEvalArgs_last_other env e hA]
      cases pyEval env e <;> rfl
    · simp only [ungroupArgs, Args.flat, h3, canonGo, hrp, LazyArgs.strs, LazyKw.strs,
        joinWith, List.append_nil]
  moreKw k eq v c rest' kw hk he hc hne _ ih ihr hn := by
    have hn : (k.lexeme :: kwNames rest').Nodup := hn
    obtain ⟨t, h1, h2, h3⟩ := ih
    obtain ⟨la, lk, r1, r2, r3, r4, r5, r6⟩ := ihr (List.nodup_cons.mp hn).2
    obtain rfl := r2 rfl
    have hfresh : k.lexeme ∉ lk.keys := r3 ▸ (List.nodup_cons.mp hn).1
    refine ⟨.nil, .cons k.lexeme t lk, ?_, fun _ => rfl, congrArg (k.lexeme :: ·) r3,
      fun env hc => ?_, nofun, fun rp rest hrp => ?_⟩
    · simp only [resolveArgs, h1, r1, assignName, ok_bind]
      exact congrArg (fun x => Except.ok (LazyArgs.nil, x)) (kwCons_fresh _ _ _ hfresh)
    · have hc : (chainless v && chainlessArgs rest') = true := hc
      rw [evalPacked_kw, h2 env (Bool.and_eq_true_iff.mp hc).1,
        r4 env (Bool.and_eq_true_iff.mp hc).2]
      rfl
    · have hr := r5 hne
      simp only [LazyArgs.strs, List.nil_append] at hr r6
      simp only [ungroupArgs, ungroup, Args.flat, Expr.flat, List.append_assoc, List.cons_append,
        List.nil_append, canonGo, hk, he, hc, h3, r6 rp rest hrp, LazyArgs.strs, LazyKw.strs,
        joinWith_cons _ _ _ hr, String.append_assoc]
  morePos e c rest' hA hc hne _ ih ihr hn := by
    rw [kwNames_more_other e c rest' hA] at hn ⊢
    obtain ⟨t, h1, h2, h3⟩ := ih
    obtain ⟨la, lk, r1, _, r3, r4, r5, r6⟩ := ihr hn
    refine ⟨.cons t la, lk, ?_, nofun, r3, fun env hc => ?_, nofun, fun rp rest hrp => ?_⟩
    · rw [resolveArgs_more_other _ e c rest' hA, h1, ok_bind, r1]
      rfl
    · have hc : (chainless e && chainlessArgs rest') = true := hc
      rw [evalPacked_pos, h2 env (Bool.and_eq_true_iff.mp hc).1,
        r4 env (Bool.and_eq_true_iff.mp hc).2, pyEvalArgs_more_other env e c rest' hA]
    · simp only [ungroupArgs, Args.flat, List.append_assoc, List.cons_append, h3, canonGo, hc,
        r6 rp rest hrp, LazyArgs.strs, joinWith_cons _ _ _ (r5 hne), String.append_assoc]

section
variable (env : Env)

theorem eval_resolve (e : Expr) (ha : alpha e = true) (hc : chainless e = true) :
    ∃ t, resolve documentedOps e = .ok t ∧ t.eval env = pyEval env e :=
  have ⟨t, h, he, _⟩ := alpha_induction value_and_name_cases e ha
  ⟨t, h, he env hc⟩

theorem eval_resolveArgs : ∀ (as : Args) (kw : Bool), alphaArgs as kw = true →
    chainlessArgs as = true → (kwNames as).Nodup →
    ∃ la lk, resolveArgs documentedOps as = .ok (la, lk) ∧ (kw = true → la = .nil) ∧
      lk.keys = kwNames as ∧ evalPacked env (la, lk) = pyEvalArgs env as :=
  fun as kw ha hc hn =>
    have ⟨la, lk, h1, h2, h3, h4, _⟩ := alphaArgs_induction value_and_name_cases as kw ha hn
    ⟨la, lk, h1, h2, h3, h4 env hc⟩

end

end FormulaeModel.Lazy
