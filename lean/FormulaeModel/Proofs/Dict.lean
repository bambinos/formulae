import FormulaeModel.Model.Contrasts
/-
The Python `dict` of the model (`Contrasts.Dict`, an insertion-ordered association list): what
`d[k] = v` does to lookups, keys and entries, and what a run of assignments
`for t in l: d[k t] = v t` builds.  `Dict.update`, `toCoding`, `designTerms`, `componentsDict` and
the merged encodings are all such runs.
-/
namespace FormulaeModel.Contrasts

theorem get?_set {β : Type} (d : Dict β) (k q : String) (v : β) :
    Dict.get? (Dict.set d k v) q = if k == q then some v else Dict.get? d q := by
  induction d with
  | nil => simp [Dict.set, Dict.get?]
  | cons e d ih =>
    obtain ⟨k', v'⟩ := e
    simp only [Dict.set]
    by_cases h : (k' == k) = true
    · have hk : k' = k := by simpa using h
      subst hk
      simp only [h, if_true, Dict.get?]
      by_cases hq : (k' == q) = true <;> simp [hq]
    · have hk : k' ≠ k := by simpa using h
      simp only [h, Bool.false_eq_true, if_false, Dict.get?, ih]
      by_cases hq : (k' == q) = true
      · have : k' = q := by simpa using hq
        subst this
        have : (k == k') = false := by simpa using fun h' : k = k' => hk h'.symm
        simp [this]
      · simp [hq]

theorem keys_set {β : Type} (d : Dict β) (k : String) (v : β) :
    Dict.keys (Dict.set d k v) = if k ∈ Dict.keys d then Dict.keys d else Dict.keys d ++ [k] := by
  induction d with
  | nil => simp [Dict.set, Dict.keys]
  | cons e d ih =>
    obtain ⟨k', v'⟩ := e
    simp only [Dict.set]
    by_cases h : (k' == k) = true
    · have hk : k' = k := by simpa using h
      subst hk
      simp [Dict.keys]
    · have hk : k' ≠ k := by simpa using h
      simp only [Dict.keys] at ih
      simp only [h, Bool.false_eq_true, if_false, Dict.keys, List.map_cons, ih, List.mem_cons]
      have hk' : ¬ k = k' := fun h' => hk h'.symm
      by_cases hm : k ∈ d.map (·.1) <;> simp [hm, hk']

theorem mem_set {β : Type} {d : Dict β} {k : String} {v : β} {x : String × β}
    (h : x ∈ Dict.set d k v) : x ∈ d ∨ x = (k, v) := by
  induction d with
  | nil => exact Or.inr (by simpa [Dict.set] using h)
  | cons e d ih =>
    simp only [Dict.set] at h
    split at h
    · rcases List.mem_cons.1 h with h | h
      · exact Or.inr h
      · exact Or.inl (List.mem_cons_of_mem _ h)
    · rcases List.mem_cons.1 h with h | h
      · exact Or.inl (h ▸ List.mem_cons_self)
      · exact (ih h).imp_left (List.mem_cons_of_mem _)

theorem dict_set_fresh {β : Type} (d : Dict β) (k : String) (v : β) (h : ∀ e ∈ d, e.1 ≠ k) :
    Dict.set d k v = d ++ [(k, v)] := by
  induction d with
  | nil => rfl
  | cons e d ih =>
    have : (e.1 == k) = false := by simpa using h e (by simp)
    simp only [Dict.set, this, Bool.false_eq_true, if_false, List.cons_append]
    rw [ih (fun e he => h e (by simp [he]))]

theorem get?_mem {β : Type} {d : Dict β} {k : String} {v : β} (h : Dict.get? d k = some v) :
    (k, v) ∈ d := by
  induction d with
  | nil => cases h
  | cons e d ih =>
    simp only [Dict.get?] at h
    split at h
    · rename_i hk
      injection h with h
      rw [← h, ← (beq_iff_eq.1 hk)]
      exact List.mem_cons_self
    · exact List.mem_cons_of_mem _ (ih h)

theorem get?_none_iff {β : Type} (d : Dict β) (k : String) :
    Dict.get? d k = none ↔ k ∉ Dict.keys d := by
  induction d with
  | nil => simp [Dict.get?, Dict.keys]
  | cons e d ih =>
    obtain ⟨k', v'⟩ := e
    simp only [Dict.get?, Dict.keys, List.map_cons, List.mem_cons, not_or]
    by_cases h : (k' == k) = true
    · have hk : k' = k := by simpa using h
      simp [hk]
    · have hk : k' ≠ k := by simpa using h
      simp only [h, Bool.false_eq_true, if_false]
      simp only [Dict.keys] at ih
      rw [ih]
      exact ⟨fun h' => ⟨fun h'' => hk h''.symm, h'⟩, fun h' => h'.2⟩

theorem get?_iff_mem {β : Type} (d : Dict β) (hn : (Dict.keys d).Nodup) (k : String) (v : β) :
    Dict.get? d k = some v ↔ (k, v) ∈ d := by
  refine ⟨get?_mem, fun hm => ?_⟩
  induction d with
  | nil => simp at hm
  | cons e d ih =>
    obtain ⟨k', v'⟩ := e
    simp only [Dict.keys, List.map_cons, List.nodup_cons] at hn
    simp only [Dict.get?]
    rcases List.mem_cons.1 hm with h | h
    · injection h with h1 h2
      simp [h1, h2]
    · have : (k' == k) = false := by
        rw [beq_eq_false_iff_ne]
        intro hk
        exact hn.1 (List.mem_map.2 ⟨(k, v), h, hk.symm⟩)
      simp only [this, Bool.false_eq_true, if_false]
      exact ih hn.2 h

section run
variable {α β : Type} (k : α → String) (v : α → β)

theorem foldl_set_mem (l : List α) : ∀ (d : Dict β) (x : String × β),
    x ∈ l.foldl (fun d t => Dict.set d (k t) (v t)) d → x ∈ d ∨ ∃ t ∈ l, x = (k t, v t) := by
  induction l with
  | nil => intro d x h; exact Or.inl h
  | cons y ys ih =>
    intro d x h
    rcases ih _ x h with h | ⟨t, ht, h⟩
    · exact (mem_set h).imp_right (fun h => ⟨y, by simp, h⟩)
    · exact Or.inr ⟨t, by simp [ht], h⟩

theorem foldl_set_keys_nodup (l : List α) : ∀ d : Dict β, (Dict.keys d).Nodup →
    (Dict.keys (l.foldl (fun d t => Dict.set d (k t) (v t)) d)).Nodup := by
  induction l with
  | nil => intro d h; exact h
  | cons x xs ih =>
    intro d h
    refine ih _ ?_
    rw [keys_set]
    split
    · exact h
    · rename_i hk
      rw [List.nodup_append]
      exact ⟨h, by simp, fun a ha b hb => by simp at hb; subst hb; exact fun h' => hk (h' ▸ ha)⟩

theorem foldl_set_keys_sup (l : List α) : ∀ (d : Dict β) (q : String),
    (q ∈ Dict.keys d ∨ q ∈ l.map k) → q ∈ Dict.keys (l.foldl (fun d t => Dict.set d (k t) (v t)) d) := by
  induction l with
  | nil => intro d q h; simpa using h
  | cons y ys ih =>
    intro d q h
    apply ih
    rw [keys_set]
    rcases h with h | h
    · left; split <;> simp [h]
    · simp only [List.map_cons, List.mem_cons] at h
      rcases h with h | h
      · left; subst h; split <;> simp [*]
      · right; exact h

theorem foldl_set_fresh (l : List α) : ∀ acc : Dict β, (Dict.keys acc ++ l.map k).Nodup →
    l.foldl (fun d t => Dict.set d (k t) (v t)) acc = acc ++ l.map (fun t => (k t, v t)) := by
  induction l with
  | nil => intro acc _; simp
  | cons x xs ih =>
    intro acc hn
    simp only [List.foldl_cons, List.map_cons]
    have hfresh : ∀ e ∈ acc, e.1 ≠ k x := by
      intro e he heq
      rw [List.nodup_append] at hn
      exact hn.2.2 e.1 (List.mem_map.2 ⟨e, he, rfl⟩) (k x) (by simp) heq
    rw [dict_set_fresh acc (k x) (v x) hfresh, ih]
    · simp
    · simpa [Dict.keys] using hn

end run

theorem foldl_set_of_nodup {β : Type} (l : List (String × β)) (h : (l.map (·.1)).Nodup) :
    l.foldl (fun d e => Dict.set d e.1 e.2) [] = l := by
  have := foldl_set_fresh (·.1) (·.2) l [] (by simpa [Dict.keys] using h)
  simpa using this

theorem foldl_update {β : Type} (l : List (Dict β)) : ∀ d : Dict β,
    l.foldl (fun r e => Dict.update r e) d = l.flatten.foldl (fun d e => Dict.set d e.1 e.2) d := by
  induction l with
  | nil => intro d; rfl
  | cons e es ih => intro d; simp only [List.foldl_cons, List.flatten_cons, List.foldl_append, ih]; rfl

/-- `result.update(d)` for each `d` of the list in turn, from the empty dictionary -/
abbrev merged {β : Type} (outs : List (Dict β)) : Dict β := outs.foldl (fun r e => Dict.update r e) []

theorem mem_of_get?_merged {β : Type} {outs : List (Dict β)} {k : String} {v : β}
    (h : Dict.get? (merged outs) k = some v) :
    ∃ out ∈ outs, (k, v) ∈ out := by
  have := get?_mem h
  rw [merged, foldl_update] at this
  rcases foldl_set_mem (fun e : String × β => e.1) (fun e => e.2) _ [] _ this with h | ⟨t, ht, he⟩
  · cases h
  · exact List.mem_flatten.1 (he ▸ ht)

theorem get?_merged {β : Type} {outs : List (Dict β)} (hk : (outs.flatMap Dict.keys).Nodup)
    (k : String) (v : β) :
    Dict.get? (merged outs) k = some v ↔ ∃ out ∈ outs, (k, v) ∈ out := by
  have hn : (outs.flatten.map (·.1)).Nodup := by
    rw [List.map_flatten]; exact hk
  rw [merged, foldl_update, foldl_set_of_nodup _ hn, get?_iff_mem _ hn, List.mem_flatten]

end FormulaeModel.Contrasts
