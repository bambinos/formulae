import FormulaeModel.Proofs.LazyResolve
import FormulaeModel.Proofs.DocTable
/-
Helper lemmas for C12: on the Python alphabet, a derivation of the formula grammar (documented
table) in which no `**` has a bare sign / bare `**` as its left operand is a derivation of
Python's grammar.
-/
namespace FormulaeModel.Lazy
open FormulaeModel.Parser FormulaeModel.Spec.C01 FormulaeModel.Spec.C12

/-- formula level ↦ Python level.  Formula levels 0 `|` and 4 `:` have no Python counterpart; 6 is
the prefix sign (above `**` here, below it in Python), 7 a call or atom. -/
abbrev LvlRel (a pa : Nat) : Prop :=
  (1 ≤ a ∧ a ≤ 3 ∧ a = pa + 1) ∨ (a = 5 ∧ pa = 4) ∨ (a = 6 ∧ pa = 3) ∨ (a = 7 ∧ pa = 5)

/-- Python's rule for an operator of formula level `i`: left-associative, except `primary ** factor` -/
abbrev RuleRel (k : Kind) (i : Nat) (ρ : PyRule) : Prop :=
  LvlRel i ρ.lvl ∧
    if k = .STAR_STAR then i = 5 ∧ ρ.leftMin = 5 ∧ ρ.rightMin = 3
    else i ≤ 3 ∧ ρ.leftMin = ρ.lvl ∧ ρ.rightMin = ρ.lvl + 1

theorem pyRule_doc (k : Kind) (h : (pyBinOp k).isSome = true) :
    ∃ i, docLevelOf k = some i ∧ ∃ ρ, pyRule k = some ρ ∧ RuleRel k i ρ := by
  have := Kind.forall_of_all (p := fun k => (pyBinOp k).isSome = true →
    ((docLevelOf k).any fun i => (pyRule k).any fun ρ => decide (RuleRel k i ρ)) = true)
    (by decide) k h
  simpa only [Option.any_eq_true, decide_eq_true_eq] using this

theorem rule_of_doc {k : Kind} {i a pa b pb : Nat} {ρ : PyRule} (hρ : RuleRel k i ρ) (h1 : i ≤ a)
    (h2 : i < b) (hl : LvlRel a pa) (hr : LvlRel b pb) (hp : k = .STAR_STAR → pa = 5) :
    ρ.leftMin ≤ pa ∧ ρ.rightMin ≤ pb := by
  obtain ⟨hi, hk⟩ := hρ
  unfold LvlRel at hi hl hr
  split at hk
  · have := hp ‹_›
    clear hi hl
    omega
  · omega

theorem lvl_pyLvl (e : Expr) (h : alpha e = true) : LvlRel (lvl documentedTable e) (pyLvl e) := by
  cases e with
  | binary l op r =>
    have ho : ((pyBinOp op.kind).isSome && alpha l && alpha r) = true := h
    simp only [Bool.and_eq_true] at ho
    obtain ⟨i, hi, ρ, hρ, hrel, _⟩ := pyRule_doc op.kind ho.1.1
    simpa only [lvl, pyLvl, opLevel_doc, hi, hρ, Option.getD_some] using hrel
  | assign => cases h
  | brace => cases h
  | subset => cases h
  | quoted => cases h
  | unary => exact (by decide : LvlRel 6 3)
  | _ => exact (by decide : LvlRel 7 5)

theorem pyLvl_of_primary (l : Expr) (h : isPrimaryLevel l = true) : pyLvl l = 5 := by
  cases l <;> first | rfl | cases h

theorem stratBin_of_stratTop (e : Expr) (ha : alpha e = true)
    (h : stratTop documentedTable e = true) : stratBin documentedTable e = true := by
  cases e with
  | binary l op r =>
    simp only [stratTop] at h
    split at h
    · rename_i hk
      have ho : ((pyBinOp op.kind).isSome && alpha l && alpha r) = true := ha
      rw [beq_iff_eq.mp hk] at ho
      cases ho
    · exact h
  | assign => cases ha
  | _ => simpa only [stratTop] using h

theorem strat_cases : AlphaCases
    (fun e => stratBin documentedTable e = true → powOk e = true → pyLevels e = true)
    (fun as _ => stratArgs documentedTable as = true → powOkArgs as = true →
      pyLevelsArgs as = true) where
  binary l op r o ho hal har ihl ihr hs hp := by
    obtain ⟨i, hi, ρ, hρ, hrel⟩ := pyRule_doc op.kind (ho ▸ rfl)
    simp only [stratBin, opLevel_doc, hi, Bool.and_eq_true, decide_eq_true_eq] at hs
    obtain ⟨⟨⟨hsl, hsr⟩, h1⟩, h2⟩ := hs
    simp only [powOk, Bool.and_eq_true, Bool.or_eq_true, bne_iff_ne, ne_eq] at hp
    obtain ⟨⟨hpl, hpr⟩, hpo⟩ := hp
    have hp5 : op.kind = .STAR_STAR → pyLvl l = 5 :=
      fun h => pyLvl_of_primary l (hpo.resolve_left (· h))
    simpa only [pyLevels, hρ, ihl hsl hpl, ihr hsr hpr, Bool.true_and, Bool.and_eq_true,
      decide_eq_true_eq] using
      rule_of_doc hrel h1 h2 (lvl_pyLvl l hal) (lvl_pyLvl r har) hp5
  unary op r o _ har ih hs hp := by
    simp only [stratBin, Bool.and_eq_true, decide_eq_true_eq] at hs
    have hr := lvl_pyLvl r har
    simp only [pyLevels, ih hs.1.2 hp, Bool.and_eq_true, decide_eq_true_eq, true_and]
    have : documentedTable.levels.length = 6 := rfl
    omega
  call n lp as rp _ _ _ _ ih hs hp := by
    simp only [stratBin, Bool.and_eq_true] at hs
    exact Bool.and_eq_true_iff.mpr ⟨rfl, ih hs.2 (Bool.and_eq_true_iff.mp hp).2⟩
  grouping lp e rp _ _ hae ih hs hp := by
    simp only [stratBin, Bool.and_eq_true] at hs
    exact ih (stratBin_of_stratTop e hae hs.2) hp
  ident _ _ _ _ := rfl
  literal _ _ _ _ := rfl
  argsNil _ _ _ := rfl
  lastKw k eq v kw _ _ _ ih hs hp := by
    simp only [stratArgs, stratTop, Bool.and_eq_true] at hs
    exact ih hs.1.2 hp
  lastPos e _ hae ih hs hp := by
    simp only [stratArgs] at hs
    exact ih (stratBin_of_stratTop e hae hs) hp
  moreKw k eq v c rest kw _ _ _ _ _ ih ihr hs hp := by
    simp only [stratArgs, stratTop, Bool.and_eq_true] at hs
    have hp := Bool.and_eq_true_iff.mp hp
    exact Bool.and_eq_true_iff.mpr ⟨ih hs.1.1.1.1.2 hp.1, ihr hs.1.2 hp.2⟩
  morePos e c rest _ _ _ hae ih ihr hs hp := by
    simp only [stratArgs, Bool.and_eq_true] at hs
    have hp := Bool.and_eq_true_iff.mp hp
    exact Bool.and_eq_true_iff.mpr
      ⟨ih (stratBin_of_stratTop e hae hs.1.1.1) hp.1, ihr hs.1.2 hp.2⟩

theorem pyLevels_of_strat (e : Expr) (hs : stratBin documentedTable e = true)
    (ha : alpha e = true) (hp : powOk e = true) : pyLevels e = true :=
  alpha_induction strat_cases e ha hs hp

theorem pyLevelsArgs_of_strat : ∀ (as : Args) (kw : Bool), stratArgs documentedTable as = true →
    alphaArgs as kw = true → powOkArgs as = true → pyLevelsArgs as = true :=
  fun as kw hs ha hp => alphaArgs_induction strat_cases as kw ha hs hp

end FormulaeModel.Lazy
