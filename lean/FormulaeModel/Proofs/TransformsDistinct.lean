import FormulaeModel.Proofs.TransformsOrtho
import Mathlib.Algebra.Polynomial.Roots
/-
`P_k` is a monic polynomial of degree `k`; hence `norms2[k] = Σ P_k(v)² ≠ 0` as soon as the data
contain more than `k` distinct values.
-/
namespace FormulaeModel.Transforms.Ortho
open Polynomial

/-- `(P_k, P_{k-1})` as Mathlib polynomials, same recursion as `pp` -/
noncomputable def PP (x : List Rat) : Nat → ℚ[X] × ℚ[X]
  | 0 => (1, 0)
  | k + 1 => ((X - C (alpha x k)) * (PP x k).1 - C (b x k) * (PP x k).2, (PP x k).1)

theorem PP_eval (x : List Rat) (k : Nat) (v : Rat) :
    ((PP x k).1).eval v = p x k v ∧ ((PP x k).2).eval v = q x k v := by
  induction k with
  | zero => simp [PP, p_zero, q_zero]
  | succ k ih =>
    constructor
    · simp only [PP, eval_sub, eval_mul, eval_X, eval_C, ih.1, ih.2, p_succ]
    · simp only [PP, ih.1, q_succ]

theorem PP_monic (x : List Rat) (k : Nat) :
    (PP x k).1.Monic ∧ (PP x k).1.natDegree = k ∧ ((PP x k).2 = 0 ∨ (PP x k).2.natDegree + 1 = k) := by
  induction k with
  | zero => simp [PP]
  | succ k ih =>
    obtain ⟨hm, hd, hq⟩ := ih
    have hmul : ((X - C (alpha x k)) * (PP x k).1).Monic := (monic_X_sub_C _).mul hm
    have hdeg : ((X - C (alpha x k)) * (PP x k).1).natDegree = k + 1 := by
      rw [(monic_X_sub_C _).natDegree_mul hm, natDegree_X_sub_C, hd]; omega
    have hlt : (C (b x k) * (PP x k).2).degree < ((X - C (alpha x k)) * (PP x k).1).degree := by
      rcases hq with h0 | h1
      · rw [h0, mul_zero, degree_zero]
        exact bot_lt_iff_ne_bot.mpr (by rw [Ne, degree_eq_bot]; exact hmul.ne_zero)
      · apply lt_of_le_of_lt (degree_le_natDegree)
        rw [degree_eq_natDegree hmul.ne_zero, hdeg]
        have := natDegree_C_mul_le (b x k) (PP x k).2
        exact_mod_cast (by omega : (C (b x k) * (PP x k).2).natDegree < k + 1)
    refine ⟨?_, ?_, Or.inr ?_⟩
    · simp only [PP]; exact hmul.sub_of_left hlt
    · simp only [PP]
      rw [natDegree_sub_eq_left_of_natDegree_lt, hdeg]
      rw [hdeg]
      rcases hq with h0 | h1
      · rw [h0]; simp
      · have := natDegree_C_mul_le (b x k) (PP x k).2; omega
    · simp only [PP]; rw [hd]

theorem sum_sq_eq_zero (f : Rat → Rat) (x : List Rat) (h : sum (x.map (fun v => f v * f v)) = 0) :
    ∀ v ∈ x, f v = 0 := by
  induction x with
  | nil => intro v hv; simp at hv
  | cons a l ih =>
    simp only [List.map_cons, sum] at h
    have h1 : 0 ≤ f a * f a := mul_self_nonneg _
    have h2 : 0 ≤ sum (l.map (fun v => f v * f v)) :=
      sum_map_nonneg _ l (fun v _ => mul_self_nonneg _)
    have ha : f a * f a = 0 := by linarith
    have hl : sum (l.map (fun v => f v * f v)) = 0 := by linarith
    intro v hv
    rcases List.mem_cons.mp hv with rfl | hv
    · exact mul_self_eq_zero.mp ha
    · exact ih hl v hv

theorem norm2_ne_zero (x : List Rat) (k : Nat) (l : List Rat) (hnd : l.Nodup) (hlen : k < l.length)
    (hsub : ∀ v ∈ l, v ∈ x) : norm2 x k ≠ 0 := by
  intro h0
  have hroots := sum_sq_eq_zero (p x k) x h0
  obtain ⟨hm, hd, _⟩ := PP_monic x k
  have hsubset : (l.toFinset).val ⊆ (PP x k).1.roots := by
    intro v hv
    have hv' : v ∈ l := by simpa using hv
    rw [mem_roots hm.ne_zero, IsRoot, (PP_eval x k v).1]
    exact hroots v (hsub v hv')
  have := card_le_degree_of_subset_roots hsubset
  rw [hd, List.toFinset_card_of_nodup hnd] at this
  omega

theorem norm2_pos (x : List Rat) (k : Nat) (h : norm2 x k ≠ 0) : 0 < norm2 x k := by
  have : 0 ≤ norm2 x k := sum_map_nonneg _ x (fun v _ => mul_self_nonneg _)
  exact lt_of_le_of_ne this (Ne.symm h)

end FormulaeModel.Transforms.Ortho
