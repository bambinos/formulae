import FormulaeModel.Proofs.CompForm
import FormulaeModel.Proofs.Callees
/-
Evaluation of a helper call `f(a)` / `f(a, b)` whose arguments are column names or literals, at
training time (`ts = none`) and at prediction time (`ts = some state`); what `newComp`
(`eval_new_data`) does for offset / proportion / plain numeric call components; what `binary` and
`proportion` return.
-/
namespace FormulaeModel.Design

theorem evalArg_call1 (env : Env) (k : Kind) (f : String) (lp rp : Token) (a : Expr) (ts : Option TS)
    (va : Val) (sa : TS) (ha : evalArg env a (TS.child ts 0) = .ok (none, va, sa)) :
    evalArg env (.call (.variable ⟨k, f⟩) lp (.last a) rp) ts =
      (do let (r, own) ← finishCall f ⟨[va], []⟩ (TS.own ts)
          pure (none, r, .node own [sa])) := by
  simp only [evalArg, evalArgs, bind, Except.bind, pure, Except.pure, ha, List.nil_append]

theorem evalArg_variable (env : Env) (v : Token) (ts : Option TS) (val : Val)
    (h : lookupName env v.lexeme = .ok val) : evalArg env (.variable v) ts = .ok (none, val, .leaf) := by
  simp only [evalArg, h, bind, Except.bind, pure, Except.pure]

theorem evalArg_call2 (env : Env) (k : Kind) (f : String) (lp rp cm : Token) (a b : Expr) (ts : Option TS)
    (va vb : Val) (sa sb : TS) (ha : evalArg env a (TS.child ts 0) = .ok (none, va, sa))
    (hb : evalArg env b (TS.child ts 1) = .ok (none, vb, sb)) :
    evalArg env (.call (.variable ⟨k, f⟩) lp (.more a cm (.last b)) rp) ts =
      (do let (r, own) ← finishCall f ⟨[va, vb], []⟩ (TS.own ts)
          pure (none, r, .node own [sa, sb])) := by
  simp only [evalArg, evalArgs, bind, Except.bind, pure, Except.pure, ha, hb, List.nil_append,
    List.cons_append]

theorem posOnly_call1 (env : Env) (k : Kind) (f : String) (lp rp : Token) (a : Expr) (ts : Option TS)
    (va : Val) (sa : TS) (ha : evalArg env a (TS.child ts 0) = .ok (none, va, sa)) :
    posOnly (evalArg env (.call (.variable ⟨k, f⟩) lp (.last a) rp) ts) =
      finishCall f ⟨[va], []⟩ (TS.own ts) >>= fun r => pure (r.1, .node r.2 [sa]) := by
  rw [evalArg_call1 env k f lp rp a ts va sa ha]
  cases finishCall f ⟨[va], []⟩ (TS.own ts) <;> rfl

theorem posOnly_call2 (env : Env) (k : Kind) (f : String) (lp rp cm : Token) (a b : Expr) (ts : Option TS)
    (va vb : Val) (sa sb : TS) (ha : evalArg env a (TS.child ts 0) = .ok (none, va, sa))
    (hb : evalArg env b (TS.child ts 1) = .ok (none, vb, sb)) :
    posOnly (evalArg env (.call (.variable ⟨k, f⟩) lp (.more a cm (.last b)) rp) ts) =
      finishCall f ⟨[va, vb], []⟩ (TS.own ts) >>= fun r => pure (r.1, .node r.2 [sa, sb]) := by
  rw [evalArg_call2 env k f lp rp cm a b ts va vb sa sb ha hb]
  cases finishCall f ⟨[va, vb], []⟩ (TS.own ts) <;> rfl

theorem evalArg_intLiteral (env : Env) (t : Token) (n : Int) (ts : Option TS)
    (hk : t.kind = .NUMBER) (hn : intLexeme t.lexeme = some n) :
    evalArg env (.literal t) ts = .ok (none, .num n true, .leaf) := by
  simp only [evalArg, hk, hn, pure, Except.pure]

theorem evalArg_strLiteral (env : Env) (t : Token) (ts : Option TS) (hk : t.kind = .STRING) :
    evalArg env (.literal t) ts =
      .ok (none, .str (String.ofList ((t.lexeme.toList.drop 1).dropLast)), .leaf) := by
  simp only [evalArg, hk, pure, Except.pure]

theorem lookupName_col (env : Env) (n : String) (c : Column) (h : env.frame.col? n = some c) :
    lookupName env n = .ok (colVal c) := by
  simp only [lookupName, h, pure, Except.pure]

def isCallLike' : Expr → Bool
  | .call .. | .brace .. => true
  | _ => false

theorem isCallLike'_eq (e : Expr) : isCallLike' e = isCallLike e := by cases e <;> rfl

/-- `eval_new_data` of an offset component: a constant is broadcast to the rows of the **new**
frame; a variable offset is the call re-evaluated on the **new** frame -/
theorem newComp_offset (st : CompState) (env' : Env) (mode : UnseenMode)
    (he : isCallLike' st.expr = true) (hk : st.kind = .offset) :
    newComp st env' mode =
      match st.offsetConst with
      | some q => .ok (List.replicate env'.frame.nrows [some q], false)
      | none =>
        match posOnly (evalArg env' st.expr (some st.tstate)) with
        | .ok (.offsetVar xs, _) => .ok (colOfEntries xs, false)
        | .ok _ => .error .typeError
        | .error e => .error e := by
  rw [newComp_call st env' mode (isCallLike'_eq _ ▸ he), hk]
  cases st.offsetConst with
  | some q => rfl
  | none =>
    show posOnly _ >>= _ = _
    rcases posOnly (evalArg env' st.expr (some st.tstate)) with _ | ⟨v, t⟩
    · rfl
    · cases v <;> rfl

/-- `eval_new_data` of a proportion component: the trials of the **new** frame (a constant number
of trials is broadcast to its rows) -/
theorem newComp_proportion (st : CompState) (env' : Env) (mode : UnseenMode)
    (he : isCallLike' st.expr = true) (hk : st.kind = .proportion) :
    newComp st env' mode =
      match st.propConst with
      | some q => .ok (List.replicate env'.frame.nrows [some q], false)
      | none =>
        match st.propTrialsName.bind env'.frame.col? with
        | some c => match colVal c with
          | .vec xs _ => .ok (colOfEntries xs, false)
          | _ => .error .typeError
        | none => .error (.keyError "trials") := by
  rw [newComp_call st env' mode (isCallLike'_eq _ ▸ he), hk]; rfl

/-- `eval_new_data` of a numeric call component (`binary`, `I`, `center`, arithmetic …): the call
re-evaluated on the **new** frame with the remembered transform state -/
theorem newComp_numericCall (st : CompState) (env' : Env) (mode : UnseenMode)
    (he : isCallLike' st.expr = true) (hk : st.kind = .numeric) :
    newComp st env' mode =
      match posOnly (evalArg env' st.expr (some st.tstate)) with
      | .ok (.vec xs _, _) => .ok (colOfEntries xs, false)
      | .ok _ => .error (.unmodelled "numeric call returned a non-vector")
      | .error e => .error e := by
  rw [newComp_call st env' mode (isCallLike'_eq _ ▸ he), hk]
  show posOnly _ >>= _ = _
  rcases posOnly (evalArg env' st.expr (some st.tstate)) with _ | ⟨v, t⟩
  · rfl
  · cases v <;> rfl

theorem any_isNone_map_some {α : Type} (xs : List α) : (xs.map some).any Option.isNone = false := by simp
theorem filterMap_id_map_some {α : Type} (xs : List α) : (xs.map some).filterMap id = xs := by
  simp [List.filterMap_map]

theorem levelOfVal_ne_pyNone (v : Val) (s : Level) (h : levelOfVal v = some s) : v ≠ .pyNone := by
  intro he; subst he; simp [levelOfVal] at h

def call1 (k : Kind) (f : String) (lp rp : Token) (a : Expr) : Expr :=
  .call (.variable ⟨k, f⟩) lp (.last a) rp
def call2 (k : Kind) (f : String) (lp cm rp : Token) (a b : Expr) : Expr :=
  .call (.variable ⟨k, f⟩) lp (.more a cm (.last b)) rp

theorem finishCall_offset (a : CallArgs) (own : Option Rat) :
    finishCall "offset" a own = applyCallee "offset" a own := rfl
theorem finishCall_binary (a : CallArgs) (own : Option Rat) :
    finishCall "binary" a own = (do pure (← binaryFn (a.get 0 "x") (a.get 1 "success"), own)) := rfl
theorem finishCall_binary_pos (va : Val) (own : Option Rat) :
    finishCall "binary" ⟨[va], []⟩ own = binaryFn va .pyNone >>= fun r => pure (r, own) := rfl
theorem finishCall_B (a : CallArgs) (own : Option Rat) :
    finishCall "B" a own = finishCall "binary" a own := rfl
theorem finishCall_p (a : CallArgs) (own : Option Rat) :
    finishCall "p" a own =
      (do pure (← proportionFn (a.get 0 "successes") (a.get 1 "trials"), own)) := rfl
theorem finishCall_p_pos (va vb : Val) (own : Option Rat) :
    finishCall "p" ⟨[va, vb], []⟩ own = proportionFn va vb >>= fun r => pure (r, own) := rfl
theorem finishCall_prop_p (a : CallArgs) (own : Option Rat) :
    finishCall "prop" a own = finishCall "p" a own := rfl
theorem finishCall_proportion_p (a : CallArgs) (own : Option Rat) :
    finishCall "proportion" a own = finishCall "p" a own := rfl

theorem proportionFn_vec_ok (ss ts : List Entry) (i j : Bool) (v : Val)
    (h : proportionFn (.vec ss i) (.vec ts j) = .ok v) : v = .prop ss ts none := by
  simp only [proportionFn, bind, Except.bind, pure, Except.pure] at h
  repeat' split at h
  all_goals (first | (simp at h; done) | (simp only [Except.ok.injEq] at h; exact h.symm))

theorem proportionFn_const_ok (ss : List Entry) (i : Bool) (q : Rat) (v : Val)
    (h : proportionFn (.vec ss i) (.num q true) = .ok v) :
    v = .prop ss (List.replicate ss.length (some q)) (some q) := by
  simp only [proportionFn, bind, Except.bind, pure, Except.pure] at h
  repeat' split at h
  all_goals (first | (simp at h; done) | (simp only [Except.ok.injEq] at h; exact h.symm))

theorem binaryFn_vec (x s r : Val) (h : binaryFn x s = .ok r) : ∃ ys b, r = .vec ys b := by
  obtain ⟨ys, rfl, _⟩ := binaryFn_ok h
  exact ⟨ys, true, rfl⟩

/-- `binary` on a column without missing values: pick the success value among the values, then
mark the rows equal to it -/
theorem binaryOn_map_some {α : Type} [DecidableEq α] (xs : List α) (success : List α → M α) :
    binaryOn (xs.map some) success = success xs >>= fun s =>
      if xs.contains s then .ok (.vec (xs.map (fun x => some (if x = s then 1 else 0))) true)
      else .error (.valueError "No value in 'x' is equal") := by
  unfold binaryOn
  rw [any_isNone_map_some, filterMap_id_map_some, if_neg Bool.false_ne_true]
  refine bind_congr_ok fun s _ => ?_
  simp only [List.map_map, Function.comp_def, beq_iff_eq, Option.some.injEq]
  rfl

theorem binaryFn_levels (xs : List Level) (d : Option (Bool × List String)) (v : Val) :
    binaryFn (.lvec (xs.map some) d) v = successLvl xs v >>= fun s =>
      if xs.contains s then .ok (.vec (xs.map (fun x => some (if x = s then 1 else 0))) true)
      else .error (.valueError "No value in 'x' is equal") :=
  (binaryFn_eq _ _).trans (binaryOn_map_some xs (successLvl · v))

theorem binaryFn_nums (xs : List Rat) (isInt : Bool) (v : Val) :
    binaryFn (.vec (xs.map some) isInt) v = successNum xs v >>= fun s =>
      if xs.contains s then .ok (.vec (xs.map (fun x => some (if x = s then 1 else 0))) true)
      else .error (.valueError "No value in 'x' is equal") :=
  (binaryFn_eq _ _).trans (binaryOn_map_some xs (successNum · v))

theorem successLvl_level (vals : List Level) (v : Val) (s : Level) (hs : levelOfVal v = some s) :
    successLvl vals v = .ok s := by
  unfold successLvl
  split
  · exact absurd rfl (levelOfVal_ne_pyNone _ s hs)
  · rw [hs]; rfl

theorem successLvl_bad (vals : List Level) (v : Val) (hv : v ≠ .pyNone) (hs : levelOfVal v = none) :
    successLvl vals v = .error (.valueError "No value in 'x' is equal") := by
  unfold successLvl
  split
  · exact absurd rfl hv
  · rw [hs]

end FormulaeModel.Design
