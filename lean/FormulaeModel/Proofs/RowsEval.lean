import FormulaeModel.Proofs.RowsCall
import FormulaeModel.Proofs.EvalState
/-
The guards of C06 (`RowwiseOk`, `D13Free`) and the state-machine lemma of lazy evaluation: an
expression of the row-wise fragment, evaluated on rows `is` of the training frame with the state
remembered from training, gives rows `is` of the training value and leaves the state unchanged.
-/
namespace FormulaeModel.Design

/-- callees outside the row-wise fragment: `binary`/`B` (D14: not stateful) -/
def excludedCallees : List String := ["binary", "B"]

mutual
/-- the row-wise fragment (syntactic part): no call of an excluded callee anywhere in the tree -/
def RowwiseOk : Expr → Bool
  | .grouping _ e _ => RowwiseOk e
  | .unary _ r => RowwiseOk r
  | .binary l _ r => RowwiseOk l && RowwiseOk r
  | .call c _ as _ =>
    RowwiseOkArgs as &&
    (match c with
     | .variable n => !(excludedCallees.contains n.lexeme)
     | _ => true)
  | .brace _ e _ => RowwiseOk e
  | .assign _ _ v => RowwiseOk v
  | _ => true
def RowwiseOkArgs : Args → Bool
  | .nil => true
  | .last e => RowwiseOk e
  | .more e _ rest => RowwiseOk e && RowwiseOkArgs rest
end

mutual
/-- the row-wise fragment (data part, D13): no `C/T/S` call node receives explicit `levels` or an
ordered categorical as data when the expression is evaluated on the training frame.  The arguments
of a call node are evaluated here, on the training frame; where that fails the node passes. -/
def D13Free (env : Env) : Expr → Bool
  | .grouping _ e _ => D13Free env e
  | .unary _ r => D13Free env r
  | .binary l _ r => D13Free env l && D13Free env r
  | .call c _ as _ =>
    D13FreeArgs env as &&
    (match c with
     | .variable n =>
       (match evalArgs env as none 0 ⟨[], []⟩ with
        | .ok (a, _) => d13ArgsOk n.lexeme a
        | .error _ => true)
     | _ => true)
  | .brace _ e _ => D13Free env e
  | .assign _ _ v => D13Free env v
  | _ => true
def D13FreeArgs (env : Env) : Args → Bool
  | .nil => true
  | .last e => D13Free env e
  | .more e _ rest => D13Free env e && D13FreeArgs env rest
end

theorem finishCall_rows (callee : String) (a : CallArgs) (n : Nat) (is : List Nat) (v : Val)
    (own' : Option Rat) (hex : excludedCallees.contains callee = false) (hg : a.good n)
    (hd : d13ArgsOk callee a = true) (his : ∀ i ∈ is, i < n)
    (h : finishCall callee a none = .ok (v, own')) :
    v.good n ∧ finishCall callee (a.rows is) own' = .ok (v.rows is, own') := by
  have pos : ∀ {x}, a.pos = [x] → x.good n ∧ (a.rows is).pos = [x.rows is] :=
    fun hp => ⟨hg.1 _ (by simp [hp]), by simp [CallArgs.rows, hp]⟩
  have d13 : callee = "C" ∨ callee = "T" ∨ callee = "S" →
      (a.get 2 "levels").isPyNone = true ∧ (a.get 0 "data").notOrdered = true := by
    intro hc
    rw [← Bool.and_eq_true]
    rcases hc with rfl | rfl | rfl <;> exact hd
  have data := CallArgs.all_get (CallArgs.good_iff_all.1 hg) trivial 0 "data"
  cases CallOk.of_finishCall h with
  | ident hp => exact ⟨(pos hp).1, (CallOk.ident (pos hp).2).finishCall⟩
  | center hp ho =>
    rename_i xs i m
    obtain ⟨g, hp'⟩ := pos hp
    refine ⟨by simpa [Val.good] using g, ?_⟩
    have := (CallOk.center (m := m) hp' (.inl rfl)).finishCall
    rwa [← pick_map_none _ rfl] at this
  | treatment =>
    have := (CallOk.treatment (a := a.rows is) (own := none)).finishCall
    rw [CallArgs.get_rows, levelOfVal_rows] at this
    exact ⟨trivial, this⟩
  | sum =>
    have := (CallOk.sum (a := a.rows is) (own := none)).finishCall
    rw [CallArgs.get_rows, levelOfVal_rows] at this
    exact ⟨trivial, this⟩
  | box hc hl hdl hb =>
    obtain ⟨hlv, hno⟩ := d13 (boxContrast_callee hc)
    rw [levelsOfVal_none _ hlv] at hl
    cases hl
    have hdecl := dataLevels_decl _ _ _ hno hdl
    rw [mkBox_plain _ _ _ hdecl] at hb
    cases hb
    refine ⟨⟨dataLevels_length _ n (Val.sized_of_good data) _ _ hdl, rfl⟩,
      (CallOk.box ((boxContrast_rows callee a is).trans hc) ?_ ?_ (mkBox_plain _ _ _ hdecl)).finishCall⟩
    · rw [CallArgs.get_rows, levelsOfVal_rows]; exact levelsOfVal_none _ hlv
    · rw [CallArgs.get_rows]; exact dataLevels_rows _ is _ _ hdl
  | rebox hdat hc hl hb =>
    rename_i c l b₀ b
    obtain ⟨hlv, -⟩ := d13 (.inl rfl)
    rw [hdat] at data
    rw [levelsOfVal_none _ hlv] at hl
    cases hl
    have plain : ∀ xs, mkBox xs none (c <|> b₀.contrast) (none <|> b₀.levels) =
        .ok ⟨xs, c <|> b₀.contrast, none⟩ := fun xs => by
      rw [data.2]; exact mkBox_plain _ _ _ (by simp)
    rw [plain] at hb
    cases hb
    refine ⟨⟨data.1, rfl⟩, (CallOk.rebox (b₀ := { b₀ with data := pick is none b₀.data }) ?_ ?_ ?_
      (plain _)).finishCall⟩
    · rw [CallArgs.get_rows, hdat]; rfl
    · rw [CallArgs.get_rows, contrastOfVal_rows]; exact hc
    · rw [CallArgs.get_rows, levelsOfVal_rows]; exact levelsOfVal_none _ hlv
  | offsetVar hp =>
    exact ⟨by simpa [Val.good] using (pos hp).1, (CallOk.offsetVar (pos hp).2).finishCall⟩
  | offsetConst hp => exact ⟨trivial, (CallOk.offsetConst (pos hp).2).finishCall⟩
  | binary hc => rcases hc with rfl | rfl <;> simp [excludedCallees] at hex
  | prop hc hv =>
    have hs := Val.sized_of_good (CallArgs.all_get (CallArgs.good_iff_all.1 hg) trivial 0 "successes")
    have ht := Val.sized_of_good (CallArgs.all_get (CallArgs.good_iff_all.1 hg) trivial 1 "trials")
    have hr := proportionFn_rows _ _ _ n is hs ht his hv
    have g := proportionFn_sized _ _ _ n hs ht hv
    obtain ⟨_, _, _, _, -, -, -, -, -, rfl⟩ := proportionFn_ok.1 hv
    rw [← CallArgs.get_rows, ← CallArgs.get_rows] at hr
    exact ⟨by simpa [Val.good, Val.sized] using g, (CallOk.prop hc hr).finishCall⟩

section
variable (env : Env) (hwf : env.frame.wellFormed = true) (hn : env.namesScalar = true) (is : List Nat)
  (his : ∀ i ∈ is, i < env.frame.nrows)
include hwf hn his

theorem evalArg_rows_both :
    (∀ e ts kw v t, evalArg env e ts = .ok (kw, v, t) → ts = none → RowwiseOk e = true →
      D13Free env e = true →
      v.good env.frame.nrows ∧ evalArg (env.rows is) e (some t) = .ok (kw, v.rows is, t)) ∧
    (∀ as ts i acc a sts, evalArgs env as ts i acc = .ok (a, sts) → ts = none →
      RowwiseOkArgs as = true → D13FreeArgs env as = true → acc.good env.frame.nrows →
      a.good env.frame.nrows ∧ ∀ (o : Option Rat) (cs : List TS), cs.drop i = sts →
        evalArgs (env.rows is) as (some (.node o cs)) i (acc.rows is) = .ok (a.rows is, sts)) := by
  refine evalArg_induct env
    ?_ ?_ ?_ ?_ ?_ ?_ ?_ ?_ ?_ ?_ ?_
  · intro lp e rp ts v t _ ih hts hok hd
    obtain ⟨g, h2⟩ := ih hts hok hd
    exact ⟨g, evalArg_grouping_ok.2 ⟨rfl, h2⟩⟩
  · intro e s ts v he h _ _ _
    exact ⟨lookupName_good env hwf hn s v h,
      (evalArg_name_ok he).2 ⟨rfl, rfl, lookupName_rows env hn is s v h⟩⟩
  · intro q ts v h _ _ _
    obtain ⟨-, -, hs, hi⟩ := evalArg_literal_ok h
    rw [Val.rows_scalar is v hs]
    exact ⟨Val.good_of_scalar hs, hi _ _⟩
  · rintro op r _ x st v - ih hv rfl hok hd
    obtain ⟨g, h2⟩ := ih rfl hok hd
    exact ⟨unaryVal_keeps (fun _ _ => trivial) (fun f a b c => vecOp_good f a b c _) g hv, evalArg_unary_ok.2 ⟨_, st, h2, unaryVal_rows is hv, rfl, rfl⟩⟩
  · rintro l op r _ a sa b sb v - iha - ihb hv rfl hok hd
    have hok : RowwiseOk l = true ∧ RowwiseOk r = true := Bool.and_eq_true_iff.1 hok
    have hd : D13Free env l = true ∧ D13Free env r = true := Bool.and_eq_true_iff.1 hd
    obtain ⟨ga, h2⟩ := iha rfl hok.1 hd.1
    obtain ⟨gb, h2'⟩ := ihb rfl hok.2 hd.2
    exact ⟨binopVal_keeps (fun _ _ => trivial) (fun f a b c => vecOp_good f a b c _) ga gb hv,
      evalArg_binary_ok.2 ⟨_, sa, _, sb, h2, h2', binopVal_rows is hv, rfl, rfl⟩⟩
  · intro n lp as rp ts args sts v own h1 ih h3 hts hok hd
    subst hts
    simp only [RowwiseOk, D13Free, Bool.and_eq_true, Bool.not_eq_true', h1] at hok hd
    obtain ⟨gargs, hrec⟩ := ih rfl hok.1 hd.1 (CallArgs.all_nil _)
    obtain ⟨gv, hfin⟩ := finishCall_rows _ args _ is v own hok.2 gargs hd.2 his h3
    exact ⟨gv, evalArg_call_ok.2 ⟨n, _, sts, own, rfl, hrec own sts rfl, hfin, rfl, rfl⟩⟩
  · rintro lb e rb _ v st - ih rfl hok hd
    obtain ⟨g, h2⟩ := ih rfl hok hd
    exact ⟨g, evalArg_brace_ok.2 ⟨st, h2, rfl, rfl⟩⟩
  · intro n eq x ts v t _ ih hts hok hd
    obtain ⟨g, h2⟩ := ih hts hok hd
    exact ⟨g, evalArg_assign_ok.2 ⟨n, rfl, rfl, h2⟩⟩
  · intro ts i acc _ _ _ hacc
    exact ⟨hacc, fun o cs _ => evalArgs_nil_ok.2 ⟨rfl, rfl⟩⟩
  · rintro e _ i acc k x st - ih rfl hok hd hacc
    obtain ⟨gx, h2⟩ := ih rfl hok hd
    refine ⟨CallArgs.all_push k hacc gx, fun o cs hcs => evalArgs_last_ok.2 ⟨k, _, st, ?_, CallArgs.rows_push .., rfl⟩⟩
    rw [TS.child_node, (drop_cons cs i st [] hcs).1]
    exact h2
  · rintro e c rest _ i acc k x st a sts - ih - ihr rfl hok hd hacc
    have hok : RowwiseOk e = true ∧ RowwiseOkArgs rest = true := Bool.and_eq_true_iff.1 hok
    have hd : D13Free env e = true ∧ D13FreeArgs env rest = true := Bool.and_eq_true_iff.1 hd
    obtain ⟨gx, h2⟩ := ih rfl hok.1 hd.1
    obtain ⟨ga, hrec⟩ := ihr rfl hok.2 hd.2 (CallArgs.all_push k hacc gx)
    refine ⟨ga, fun o cs hcs => ?_⟩
    obtain ⟨h0, h1⟩ := drop_cons cs i st sts hcs
    refine evalArgs_more_ok.2 ⟨k, x.rows is, st, sts, ?_, ?_, rfl⟩
    · rw [TS.child_node, h0]; exact h2
    · rw [← CallArgs.rows_push]; exact hrec o cs h1

theorem evalArg_rows : ∀ (e : Expr), RowwiseOk e = true → D13Free env e = true →
    ∀ (kw : Option String) (v : Val) (t : TS), evalArg env e none = .ok (kw, v, t) →
      v.good env.frame.nrows ∧ evalArg (env.rows is) e (some t) = .ok (kw, v.rows is, t) :=
  fun e hok hd kw v t h => (evalArg_rows_both env hwf hn is his).1 e none kw v t h rfl hok hd

theorem evalArgs_rows : ∀ (as : Args), RowwiseOkArgs as = true → D13FreeArgs env as = true →
    ∀ (i : Nat) (acc a : CallArgs) (sts : List TS), acc.good env.frame.nrows →
      evalArgs env as none i acc = .ok (a, sts) →
      a.good env.frame.nrows ∧ ∀ (o : Option Rat) (cs : List TS), cs.drop i = sts →
        evalArgs (env.rows is) as (some (.node o cs)) i (acc.rows is) = .ok (a.rows is, sts) :=
  fun as hok hd i acc a sts hacc h =>
    (evalArg_rows_both env hwf hn is his).2 as none i acc a sts h rfl hok hd hacc
end

section
variable (env env' : Env)

/-- the state has the shape of the expression, and on such a state evaluation changes nothing -/
theorem evalArg_frozen : ∀ (e : Expr) (kw kw' : Option String) (v v' : Val) (t t' : TS),
    evalArg env e none = .ok (kw, v, t) → evalArg env' e (some t) = .ok (kw', v', t') → t' = t :=
  fun e _ _ _ _ _ _ h h' => World.evalArg_pure env' e _ _ _ _ (World.evalArg_shape env e _ _ _ _ h) h'

theorem evalArgs_frozen : ∀ (as : Args) (i : Nat) (acc acc' a a' : CallArgs) (sts sts' : List TS)
    (o : Option Rat) (cs : List TS),
    evalArgs env as none i acc = .ok (a, sts) → cs.drop i = sts →
    evalArgs env' as (some (.node o cs)) i acc' = .ok (a', sts') → sts' = sts :=
  fun as i _ _ _ _ _ _ o cs h hcs h' =>
    hcs ▸ World.evalArgs_pure env' as o cs i _ _ _ (hcs ▸ World.evalArgs_shape env as _ i _ _ _ h) h'
end

end FormulaeModel.Design
