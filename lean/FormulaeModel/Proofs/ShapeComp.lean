import FormulaeModel.Proofs.RowsComp
/-
One component, for C04 / C17.  `trainComp` returns one row per row of the
frame, every row as wide as the list of labels, and a state (levels, contrast matrix) from which
`newComp` produces, on any later rectangular frame, one row per row of that frame and the same
number of columns.
-/
namespace FormulaeModel.Design

def HasWidth (m : Matrix) (w : Nat) : Prop := ∀ r ∈ m, r.length = w

theorem hasWidth_colOfEntries (xs : List Entry) : HasWidth (colOfEntries xs) 1 := by
  intro r hr
  simp only [colOfEntries, List.mem_map] at hr
  obtain ⟨x, _, rfl⟩ := hr
  rfl

theorem hasWidth_replicate (n : Nat) (row : List Entry) : HasWidth (List.replicate n row) row.length := by
  intro r hr
  rw [(List.mem_replicate.1 hr).2]

def ContrastMatrix.shapeOk (cm : ContrastMatrix) (nlevels : Nat) : Prop :=
  cm.rows.length = nlevels ∧ ∀ r ∈ cm.rows, r.length = cm.labels.length

theorem reducedLike_shape (levels : List Level) (r : Nat) (z : Int)
    (hr : levels.length ≠ 0 → r < levels.length) :
    ContrastMatrix.shapeOk
      ⟨(List.range levels.length).map (fun i =>
          if i < r then unitRow (levels.length - 1) i
          else if i == r then List.replicate (levels.length - 1) z
          else unitRow (levels.length - 1) (i - 1)),
        ((levels.take r) ++ (levels.drop (r + 1))).map Level.label⟩ levels.length := by
  refine ⟨by rw [List.length_map, List.length_range], ?_⟩
  intro row hrow
  simp only [List.mem_map, List.mem_range] at hrow
  obtain ⟨i, hi, rfl⟩ := hrow
  have hl : (((levels.take r) ++ (levels.drop (r + 1))).map Level.label).length = levels.length - 1 := by
    -- the labels are the levels with the `r`-th erased
    rw [List.length_map, ← List.eraseIdx_eq_take_drop_succ, List.length_eraseIdx]
    split
    · rfl
    · rename_i hlt
      rw [Decidable.byContradiction fun hne => hlt (hr hne)]
  refine Eq.trans ?_ hl.symm
  split
  · exact unitRow_length _ _
  · split
    · exact List.length_replicate
    · exact unitRow_length _ _

theorem treatmentReduced_shape (reference : Option Level) (levels : List Level) (cm : ContrastMatrix)
    (h : treatmentReduced reference levels = .ok cm) : cm.shapeOk levels.length := by
  obtain ⟨r, hr, hrows, hlabels⟩ := treatmentReduced_ok reference levels cm h
  have := reducedLike_shape levels r 0 (by
    intro hne
    rcases hr with ⟨_, rfl⟩ | ⟨l, _, hl⟩
    · omega
    · exact (indexOf?_some _ _ _ hl).1)
  obtain ⟨rows, labels⟩ := cm
  simp only at hrows hlabels
  subst hrows hlabels
  simpa [reducedRows] using this

theorem sumOmitIndex_lt (omitL : Option Level) (levels : List Level) (r : Nat)
    (h : sumOmitIndex omitL levels = .ok r) (hne : levels.length ≠ 0) : r < levels.length := by
  unfold sumOmitIndex at h
  split at h
  · simp only [pure_ok] at h; omega
  · split at h
    · rename_i i hi
      simp only [pure_ok] at h
      subst h
      exact (indexOf?_some _ _ _ hi).1
    · simp at h

theorem sumReduced_shape (omitL : Option Level) (levels : List Level) (cm : ContrastMatrix)
    (h : sumReduced omitL levels = .ok cm) : cm.shapeOk levels.length := by
  unfold sumReduced at h
  rw [bind_ok] at h
  obtain ⟨r, hr, h⟩ := h
  simp only [pure_ok] at h
  subst h
  exact reducedLike_shape levels r (-1) (sumOmitIndex_lt omitL levels r hr)

theorem code_shape (c : Contrast) (full : Bool) (levels : List Level) (cm : ContrastMatrix)
    (h : c.code full levels = .ok cm) : cm.shapeOk levels.length := by
  unfold Contrast.code at h
  split at h
  · simp only [pure_ok] at h
    subst h
    refine ⟨by simp [treatmentFull], ?_⟩
    intro row hrow
    simp only [treatmentFull, List.mem_map, List.mem_range] at hrow
    obtain ⟨i, _, rfl⟩ := hrow
    simp [treatmentFull, unitRow]
  · exact treatmentReduced_shape _ _ _ h
  · unfold sumFull at h
    simp only [bind_ok, pure_ok] at h
    obtain ⟨c', hc', rfl⟩ := h
    obtain ⟨h1, h2⟩ := sumReduced_shape _ _ _ hc'
    refine ⟨by simpa using h1, ?_⟩
    intro row hrow
    simp only [List.mem_map] at hrow
    obtain ⟨r', hr', rfl⟩ := hrow
    simp [h2 r' hr']
  · exact sumReduced_shape _ _ _ h

theorem rowOfInts_length (r : List Int) : (rowOfInts r).length = r.length := by simp [rowOfInts]

theorem getD_rows_length (cm : ContrastMatrix) (n i w : Nat) (hlen : cm.rows.length = n)
    (hw : ∀ r ∈ cm.rows, r.length = w) (hi : i < n) : (rowOfInts (cm.rows.getD i [])).length = w := by
  subst hlen
  rw [rowOfInts_length, List.getD_eq_getElem?_getD, List.getElem?_eq_getElem hi, Option.getD_some]
  exact hw _ (List.getElem_mem _)

/-- `contrast_matrix.matrix[codes]`: every coded row is as wide as the rows of the matrix -/
theorem codeRows_width (cm : ContrastMatrix) (levels : List Level) (xs : List (Option Level))
    (m : Matrix) (w : Nat) (hlen : cm.rows.length = levels.length) (hw : ∀ r ∈ cm.rows, r.length = w)
    (h : codeRows cm levels xs = .ok m) : HasWidth m w := by
  apply mapM_forall _ (fun r => r.length = w) xs m h
  intro x _ y hy
  split at hy
  · split at hy
    · rename_i l i hi
      cases (pure_ok _ _).1 hy
      exact getD_rows_length cm _ i w hlen hw (indexOf?_some _ _ _ hi).1
    · cases hy
  · cases hy

theorem Coded.shape {full : Bool} {xs : List (Option Level)} {levels : List Level} {cm : ContrastMatrix}
    {m : Matrix} (h : Coded full xs levels cm m) :
    m.length = xs.length ∧ cm.shapeOk levels.length ∧ HasWidth m cm.labels.length := by
  obtain ⟨⟨c, hc⟩, hm⟩ := h
  have hcm := code_shape _ _ _ _ hc
  exact ⟨codeRows_length _ _ _ _ hm, hcm, codeRows_width _ _ _ _ _ hcm.1 hcm.2 hm⟩

/-- the number of columns of a trained component (training and new data) -/
def CompState.width (st : CompState) : Nat :=
  match st.kind, st.contrast with
  | .categoric, some cm => cm.labels.length
  | _, _ => 1

def CompState.shapeOk (st : CompState) : Prop :=
  ∀ cm, st.contrast = some cm → st.kind = .categoric ∧ cm.shapeOk st.levels.length

structure CompOut.Shaped (n : Nat) (out : CompOut) : Prop where
  rows : out.value.length = n
  state : out.st.shapeOk
  cols : ∀ ls, out.labels = some ls → HasWidth out.value ls.length ∧ ls.length = out.st.width
  uniform : ∃ w, HasWidth out.value w

theorem CompState.width_of_contrast (st : CompState) (cm : ContrastMatrix) (hk : st.kind = .categoric)
    (hc : st.contrast = some cm) : st.width = cm.labels.length := by
  simp [CompState.width, hk, hc]

theorem CompState.width_of_kind (st : CompState) (hk : st.kind ≠ .categoric) : st.width = 1 := by
  unfold CompState.width
  split
  · rename_i h _; exact absurd h hk
  · rfl

theorem CompState.width_of_none (st : CompState) (hc : st.contrast = none) : st.width = 1 := by
  unfold CompState.width
  split
  · rename_i h; rw [hc] at h; cases h
  · rfl

theorem CompOut.Shaped.plain (n : Nat) (st : CompState) (value : Matrix) (labels : Option (List String)) (w : Nat)
    (h1 : value.length = n) (hc : st.contrast = none) (hw : HasWidth value w)
    (hl : ∀ ls, labels = some ls → ls.length = 1 ∧ w = 1) : CompOut.Shaped n ⟨st, value, labels⟩ := by
  refine ⟨h1, ?_, ?_, ⟨w, hw⟩⟩
  · intro cm hcm; rw [hc] at hcm; cases hcm
  · intro ls hls
    obtain ⟨a, rfl⟩ := hl ls hls
    rw [a]
    exact ⟨hw, (CompState.width_of_none st hc).symm⟩

theorem CompOut.Shaped.column {n : Nat} {st : CompState} {value : Matrix} {l : String}
    (h1 : value.length = n) (hc : st.contrast = none) (hw : HasWidth value 1) :
    CompOut.Shaped n ⟨st, value, some [l]⟩ :=
  CompOut.Shaped.plain n st value _ 1 h1 hc hw (fun _ hls => by cases hls; exact ⟨rfl, rfl⟩)

theorem CompOut.Shaped.ofCoded {full : Bool} {xs : List (Option Level)} {levels : List Level}
    {cm : ContrastMatrix} {m : Matrix} (hcd : Coded full xs levels cm m) {n : Nat} (hx : xs.length = n)
    {st : CompState} {nm : String} (hk : st.kind = .categoric) (hc : st.contrast = some cm)
    (hlv : st.levels = levels) : CompOut.Shaped n ⟨st, m, some (categoricLabels nm cm)⟩ := by
  obtain ⟨hl, hs, hw⟩ := hcd.shape
  refine ⟨hl.trans hx, ?_, ?_, ⟨_, hw⟩⟩
  · intro cm' hcm'
    rw [hc] at hcm'
    cases hcm'
    exact ⟨hk, hlv ▸ hs⟩
  · intro ls hls
    cases hls
    simp only [categoricLabels, List.length_map, CompState.width_of_contrast st cm hk hc]
    exact ⟨hw, trivial⟩

theorem zipWith_pair_width (ss ts : List Entry) : HasWidth (List.zipWith (fun a b => [a, b]) ss ts) 2 := by
  intro r hr
  rw [List.mem_iff_getElem] at hr
  obtain ⟨i, hi, rfl⟩ := hr
  simp

theorem hasWidth_map {α : Type} (f : α → List Entry) (xs : List α) (w : Nat)
    (h : ∀ x, (f x).length = w) : HasWidth (xs.map f) w := by
  intro r hr
  simp only [List.mem_map] at hr
  obtain ⟨x, _, rfl⟩ := hr
  exact h x

theorem valLeaf_shape (n : Nat) (st : CompState) (hc : st.contrast = none) (name : String) (full : Bool)
    (v : Val) (hs : v.sized n = true) (out : CompOut) (h : valLeaf st name full v = .ok out) :
    out.Shaped n := by
  cases v <;> simp only [valLeaf, reduceCtorEq] at h
  all_goals simp only [Val.sized, beq_iff_eq] at hs
  case vec xs isInt =>
    split at h
    · rw [bind_ok] at h
      obtain ⟨ls, hls, h⟩ := h
      obtain ⟨levels, cm, m, hcat, rfl⟩ := catLeaf_ok.1 h
      exact CompOut.Shaped.ofCoded (evalCategoric_coded hcat)
        ((numericLevels_length _ _ hls).trans hs) rfl rfl rfl
    · cases (pure_ok _ _).1 h
      exact CompOut.Shaped.column ((colOfEntries_length xs).trans hs) hc (hasWidth_colOfEntries xs)
  case lvec xs d =>
    obtain ⟨levels, cm, m, hcat, rfl⟩ := catLeaf_ok.1 h
    exact CompOut.Shaped.ofCoded (evalCategoric_coded hcat) hs rfl rfl rfl
  case box b =>
    obtain ⟨levels, cm, m, hcat, rfl⟩ := catLeaf_ok.1 h
    exact CompOut.Shaped.ofCoded (evalBox_coded hcat) hs rfl rfl rfl

theorem compOfVal_shape (n : Nat) (name : String) (e : Expr) (forced isResponse full : Bool) (v : Val)
    (ts : TS) (hs : v.sized n = true) (out : CompOut)
    (h : compOfVal n name e forced isResponse full v ts = .ok out) : out.Shaped n := by
  cases v <;> simp only [compOfVal, reduceCtorEq] at h
  case vec | lvec | box => exact valLeaf_shape n _ rfl _ _ _ hs _ h
  all_goals simp only [Val.sized, beq_iff_eq, Bool.and_eq_true] at hs
  case offsetVar xs =>
    obtain ⟨_, _, rfl⟩ := offsetLeaf_ok.1 h
    exact CompOut.Shaped.column ((colOfEntries_length xs).trans hs) rfl (hasWidth_colOfEntries xs)
  case offsetConst q =>
    obtain ⟨_, _, rfl⟩ := offsetLeaf_ok.1 h
    exact CompOut.Shaped.column List.length_replicate rfl (hasWidth_replicate n [some q])
  case prop ss ts' c =>
    split at h
    · cases h
    · cases (pure_ok _ _).1 h
      exact CompOut.Shaped.plain _ _ _ _ 2 (by simp [hs.1, hs.2]) rfl (zipWith_pair_width ss ts') (by simp)

theorem compOfCol_shape (n : Nat) (name : String) (e : Expr) (forced isResponse full : Bool)
    (reference : Option String) (c : Column) (hl : c.cells.length = n) (out : CompOut)
    (h : compOfCol name e forced isResponse full reference c = .ok out) : out.Shaped n := by
  have hs := colVal_sized c
  rw [hl] at hs
  have h0 := h
  simp only [compOfCol] at h
  split at h
  · rename_i xs isInt hv
    exact valLeaf_shape n _ rfl _ _ _ (hv ▸ hs) _ h
  · rename_i xs d hv
    rw [hv] at hs
    split at h
    · -- response with a reference level: nothing is remembered but the levels
      rw [compOfCol_ref _ _ _ _ _ _ _ _ hv] at h0
      split at h0
      · cases h0
      · simp only [bind_ok, pure_ok] at h0
        obtain ⟨levels, _, rfl⟩ := h0
        simp only [Val.sized, beq_iff_eq] at hs
        exact CompOut.Shaped.column (by simp [hs]) rfl (hasWidth_map _ _ 1 (fun _ => rfl))
    · exact valLeaf_shape n _ rfl _ _ _ hs _ h
  · cases h

/-- `set_type` + `set_data` of one component: one row per row of the frame, one entry per label in
every row, and a state whose remembered coding is well shaped — for every expression -/
theorem trainComp_shape (env : Env) (hwf : env.frame.wellFormed = true)
    (hn : env.namesSized env.frame.nrows = true) (name : String) (e : Expr)
    (forced isResponse full : Bool) (out : CompOut)
    (h : trainComp env name e forced isResponse full = .ok out) : out.Shaped env.frame.nrows := by
  rcases (trainComp_ok _ _ _ _ _ _ _).1 h with ⟨_, v, ts, hv, h⟩ | ⟨_, c, hcol, h⟩
  · exact compOfVal_shape _ _ _ _ _ _ _ _ (evalArg_sized env hwf hn _ _ _ _ _ hv) _ h
  · exact compOfCol_shape _ _ _ _ _ _ _ c (frame_col?_length env.frame hwf _ c hcol) _ h

theorem newCategoric_shape (st : CompState) (hst : st.shapeOk) (mode : UnseenMode)
    (xs : List (Option Level)) (m : Matrix) (w : Bool) (n : Nat)
    (h : newCategoric st mode xs = .ok (m, w)) (hx : xs.length = n) :
    m.length = n ∧ HasWidth m st.width := by
  subst hx
  unfold newCategoric at h
  split at h
  · simp at h
  · rename_i cm hc
    obtain ⟨hk, hs⟩ := hst cm hc
    rw [CompState.width_of_contrast st cm hk hc]
    simp only [] at h
    split at h
    · simp only [bind_ok, pure_ok, Prod.mk.injEq] at h
      obtain ⟨m', hm', rfl, rfl⟩ := h
      exact ⟨codeRows_length _ _ _ _ hm', codeRows_width _ _ _ _ _ hs.1 hs.2 hm'⟩
    · split at h
      · simp at h
      · simp only [pure_ok, Prod.mk.injEq] at h
        obtain ⟨rfl, rfl⟩ := h
        refine ⟨by simp, ?_⟩
        apply hasWidth_map
        intro x
        split
        · rename_i i hi
          rw [Option.bind_eq_some_iff] at hi
          obtain ⟨l, _, hl⟩ := hi
          exact getD_rows_length cm _ i _ hs.1 hs.2 (indexOf?_some _ _ _ hl).1
        · simp

theorem newOfVal_shape (st : CompState) (hst : st.shapeOk) (mode : UnseenMode) (v : Val) (n : Nat)
    (hs : v.sized n = true) (m : Matrix) (w : Bool) (h : newOfVal st mode v = .ok (m, w)) :
    m.length = n ∧ HasWidth m st.width := by
  cases v <;> simp only [newOfVal, reduceCtorEq] at h
  all_goals simp only [Val.sized, beq_iff_eq] at hs
  case vec xs isInt =>
    rw [bind_ok] at h
    obtain ⟨ls, hls, h⟩ := h
    exact newCategoric_shape st hst mode ls m w n h ((numericLevels_length _ _ hls).trans hs)
  case lvec xs d => exact newCategoric_shape st hst mode xs m w n h hs
  case box b => exact newCategoric_shape st hst mode b.data m w n h hs

theorem newColumn_shape (st : CompState) (hk : st.kind ≠ .categoric) (xs : List Entry) (n : Nat)
    (hx : xs.length = n) : (colOfEntries xs).length = n ∧ HasWidth (colOfEntries xs) st.width :=
  ⟨(colOfEntries_length xs).trans hx, CompState.width_of_kind st hk ▸ hasWidth_colOfEntries xs⟩

theorem newConst_shape (st : CompState) (hk : st.kind ≠ .categoric) (q : Rat) (n : Nat) :
    (List.replicate n [some q]).length = n ∧ HasWidth (List.replicate n [some q]) st.width :=
  ⟨List.length_replicate, CompState.width_of_kind st hk ▸ hasWidth_replicate n [some q]⟩

theorem newOfCol_shape (st : CompState) (hst : st.shapeOk) (mode : UnseenMode) (c : Column) (n : Nat)
    (hl : c.cells.length = n) (m : Matrix) (w : Bool) (h : newOfCol st mode c = .ok (m, w)) :
    m.length = n ∧ HasWidth m st.width := by
  have hs := colVal_sized c
  rw [hl] at hs
  unfold newOfCol at h
  split at h <;> simp only [*, Val.sized, beq_iff_eq] at hs
  · cases (pure_ok _ _).1 h
    exact newColumn_shape st (by simp [*]) _ n hs
  · rw [bind_ok] at h
    obtain ⟨ls, hls, h⟩ := h
    exact newCategoric_shape st hst mode ls m w n h ((numericLevels_length _ _ hls).trans hs)
  · cases h
  · exact newCategoric_shape st hst mode _ m w n h hs
  · cases h

theorem posOnly_bind_sized {α : Type} (env : Env) (hwf : env.frame.wellFormed = true)
    (hn : env.namesSized env.frame.nrows = true) (e : Expr) (ts : Option TS) (k : Val × TS → M α) (r : α)
    (h : (posOnly (evalArg env e ts) >>= k) = .ok r) :
    ∃ p, p.1.sized env.frame.nrows = true ∧ k p = .ok r := by
  rw [bind_ok] at h
  obtain ⟨⟨v, t⟩, hv, h⟩ := h
  rw [posOnly_ok] at hv
  exact ⟨(v, t), evalArg_sized env hwf hn _ _ _ _ _ hv, h⟩

/-- `eval_new_data` of one component on any rectangular frame: one row per row of that frame, and
the number of columns the state stands for -/
theorem newComp_shape (st : CompState) (hst : st.shapeOk) (env : Env)
    (hwf : env.frame.wellFormed = true) (hn : env.namesSized env.frame.nrows = true)
    (mode : UnseenMode) (m : Matrix) (w : Bool) (h : newComp st env mode = .ok (m, w)) :
    m.length = env.frame.nrows ∧ HasWidth m st.width := by
  cases hc : isCallLike st.expr with
  | false =>
    rw [newComp_var _ _ _ hc] at h
    split at h
    · cases h
    · rename_i c hcol
      exact newOfCol_shape st hst mode c _ (frame_col?_length env.frame hwf _ c hcol) m w h
  | true =>
    rw [newComp_call _ _ _ hc] at h
    split at h
    · rename_i hk
      have hk' : st.kind ≠ .categoric := by simp [hk]
      split at h
      · cases (pure_ok _ _).1 h
        exact newConst_shape st hk' _ _
      · obtain ⟨p, hs, h⟩ := posOnly_bind_sized env hwf hn _ _ _ _ h
        split at h
        · rename_i xs hv
          simp only [hv, Val.sized, beq_iff_eq] at hs
          cases (pure_ok _ _).1 h
          exact newColumn_shape st hk' xs _ hs
        · cases h
    · rename_i hk
      have hk' : st.kind ≠ .categoric := by simp [hk]
      split at h
      · cases (pure_ok _ _).1 h
        exact newConst_shape st hk' _ _
      · split at h
        · rename_i c hcol
          rw [Option.bind_eq_some_iff] at hcol
          obtain ⟨_, _, hcol⟩ := hcol
          have hs := colVal_sized c
          rw [frame_col?_length env.frame hwf _ c hcol] at hs
          split at h
          · rename_i xs isInt hv
            simp only [hv, Val.sized, beq_iff_eq] at hs
            cases (pure_ok _ _).1 h
            exact newColumn_shape st hk' xs _ hs
          · cases h
        · cases h
    · rename_i hk
      obtain ⟨p, hs, h⟩ := posOnly_bind_sized env hwf hn _ _ _ _ h
      split at h
      · rename_i xs isInt hv
        simp only [hv, Val.sized, beq_iff_eq] at hs
        cases (pure_ok _ _).1 h
        exact newColumn_shape st (by simp [hk]) xs _ hs
      · cases h
    · obtain ⟨p, hs, h⟩ := posOnly_bind_sized env hwf hn _ _ _ _ h
      exact newOfVal_shape st hst mode _ _ hs m w h

end FormulaeModel.Design
