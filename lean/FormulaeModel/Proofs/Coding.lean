import FormulaeModel.Spec.C13
/-
Helper lemmas for C13.  Treatment and sum coding are one matrix, the identity with a constant row
`fill` inserted at `r` (`EntriesReduced`, `fill = 0` or `-1`): its row and column functionals
(`sum_row`, `sum_col`), the explicit two-sided inverse of `[1 | M]` (`inv_left`, `inv_right`), the
closed form of what the model builds (`reduced_eq`), labels, the evaluation of every spelling, and
the passage from the integer inverse to independence and spanning over ℚ
(`independent_of_left_inverse`, `spanning_of_right_inverse`).
-/
namespace FormulaeModel.Proofs.Coding
open FormulaeModel.Coding FormulaeModel.Spec.C13

theorem allLt_iff {n : Nat} {p : Nat → Bool} : allLt n p = true ↔ ∀ i, i < n → p i = true := by
  simp [allLt, List.all_eq_true]

theorem mulIsScalar_iff {A B : IMatrix} {n : Nat} {c : Int} :
    mulIsScalar A B n c = true ↔
      ∀ i k, i < n → k < n → mulEnt A B n i k = if i = k then c else 0 := by
  simp only [mulIsScalar, allLt_iff, beq_iff_eq]
  exact ⟨fun h i k hi hk => h i hi k hk, fun h i hi k hk => h i k hi hk⟩

theorem sumTo_congr {n : Nat} {f g : Nat → Int} (h : ∀ i, i < n → f i = g i) :
    sumTo n f = sumTo n g := by
  induction n with
  | zero => rfl
  | succ n ih =>
    simp only [sumTo]
    rw [ih (fun i hi => h i (by omega)), h n (by omega)]

theorem sumTo_const (n : Nat) (c : Int) : sumTo n (fun _ => c) = n * c := by
  induction n with
  | zero => simp [sumTo]
  | succ n ih => simp only [sumTo, ih]; grind

theorem sumTo_zero (n : Nat) : sumTo n (fun _ => 0) = 0 := by
  rw [sumTo_const, Int.mul_zero]

theorem sumTo_add (n : Nat) (f g : Nat → Int) :
    sumTo n (fun i => f i + g i) = sumTo n f + sumTo n g := by
  induction n with
  | zero => rfl
  | succ n ih => simp only [sumTo, ih]; omega

theorem sumTo_sub (n : Nat) (f g : Nat → Int) :
    sumTo n (fun i => f i - g i) = sumTo n f - sumTo n g := by
  induction n with
  | zero => rfl
  | succ n ih => simp only [sumTo, ih]; omega

theorem sumTo_mul_left (n : Nat) (c : Int) (f : Nat → Int) :
    sumTo n (fun i => c * f i) = c * sumTo n f := by
  induction n with
  | zero => simp [sumTo]
  | succ n ih => simp only [sumTo, ih, Int.mul_add]

theorem sumTo_ite_eq (n a : Nat) (g : Nat → Int) :
    sumTo n (fun m => if m = a then g m else 0) = if a < n then g a else 0 := by
  induction n with
  | zero => rfl
  | succ n ih => simp only [sumTo, ih]; grind

theorem sumTo_succ_left {n : Nat} (hn : 0 < n) (f : Nat → Int) :
    sumTo n f = f 0 + sumTo (n - 1) (fun m => f (m + 1)) := by
  obtain ⟨n, rfl⟩ : ∃ m, n = m + 1 := ⟨n - 1, by omega⟩
  induction n with
  | zero => simp [sumTo]
  | succ n ih => rw [sumTo, ih (by omega)]; simp only [sumTo, Nat.add_sub_cancel]; omega

theorem ent_table (n c : Nat) (f : Nat → Nat → Int) (i j : Nat) (hi : i < n) (hj : j < c) :
    ent ((List.range n).map fun i => (List.range c).map fun j => f i j) i j = f i j := by
  simp [ent, List.getD_eq_getElem?_getD, hi, hj]

theorem isShape_table (n c : Nat) (f : Nat → Nat → Int) :
    isShape ((List.range n).map fun i => (List.range c).map fun j => f i j) n c = true := by
  simp [isShape, List.all_eq_true]

theorem ent_withConst_zero (M : IMatrix) (i : Nat) (hi : i < M.length) :
    ent (withConst M) i 0 = 1 := by
  simp [ent, withConst, List.getD_eq_getElem?_getD, hi]

theorem ent_withConst_succ (M : IMatrix) (i j : Nat) :
    ent (withConst M) i (j + 1) = ent M i j := by
  simp only [ent, withConst, List.getD_eq_getElem?_getD, List.getElem?_map]
  cases M[i]? <;> simp

theorem isShape_withConst (M : IMatrix) (r c : Nat) (h : isShape M r c = true) :
    isShape (withConst M) r (c + 1) = true := by
  simp [isShape, withConst, List.all_eq_true] at *
  exact h

theorem ent_eq_entry (M : IMatrix) (r c i j : Nat) (h : isShape M r c = true) (hi : i < r)
    (hj : j < c) : entry? M i j = some (ent M i j) := by
  simp [isShape, List.all_eq_true] at h
  obtain ⟨h1, h2⟩ := h
  have hi' : i < M.length := by omega
  have := h2 M[i] (List.getElem_mem hi')
  simp [entry?, ent, List.getD_eq_getElem?_getD, hi', this, hj]

/-- inverse of `skip r` on the indices other than `r` -/
def unskip (r i : Nat) : Nat := if i < r then i else i - 1

theorem skip_ne (r j : Nat) : skip r j ≠ r := by grind [skip]

theorem skip_lt (n r j : Nat) (hj : j < n - 1) : skip r j < n := by grind [skip]

theorem skip_eq_iff (r i j : Nat) (h : i ≠ r) : i = skip r j ↔ j = unskip r i := by
  simp only [skip, unskip]; grind

theorem unskip_lt (n r i : Nat) (hi : i < n) (hr : r < n) (h : i ≠ r) : unskip r i < n - 1 := by
  grind [unskip]

theorem skip_inj (r a b : Nat) : skip r a = skip r b ↔ a = b := by grind [skip]

theorem sumTo_skip {n r k : Nat} (hr : r < n) (hk : k < n) (g : Nat → Int) :
    sumTo (n - 1) (fun j => if k = skip r j then g j else 0) = if k = r then 0 else g (unskip r k) := by
  by_cases h : k = r
  · rw [sumTo_congr (g := fun _ => 0) (fun j _ => if_neg (h ▸ (skip_ne r j).symm)), sumTo_zero,
      if_pos h]
  · rw [sumTo_congr (g := fun j => if j = unskip r k then g j else 0)
        (fun j _ => by simp only [skip_eq_iff r k j h]),
      sumTo_ite_eq, if_pos (unskip_lt n r k hk hr h), if_neg h]

/-- `fill = 0`: treatment coding with reference `r`; `fill = -1`: sum coding omitting `r` -/
def EntriesReduced (n r : Nat) (fill : Int) (M : IMatrix) : Prop :=
  isShape M n (n - 1) = true ∧
  ∀ i j, i < n → j < n - 1 → ent M i j = if i = r then fill else if i = skip r j then 1 else 0

theorem EntriesReduced.shape_withConst {n r : Nat} {fill : Int} {M : IMatrix}
    (h : EntriesReduced n r fill M) (hr : r < n) : isShape (withConst M) n n = true := by
  have := isShape_withConst M n (n - 1) h.1
  rwa [show n - 1 + 1 = n by omega] at this

theorem EntriesReduced.ent_const {n r : Nat} {fill : Int} {M : IMatrix}
    (h : EntriesReduced n r fill M) {i : Nat} (hi : i < n) : ent (withConst M) i 0 = 1 :=
  ent_withConst_zero M i (by have := h.1; simp only [isShape, Bool.and_eq_true, beq_iff_eq] at this; omega)

theorem sum_col {n r : Nat} {fill : Int} {M : IMatrix} (h : EntriesReduced n r fill M) (hr : r < n)
    {j : Nat} (hj : j < n - 1) (g : Nat → Int) :
    sumTo n (fun k => g k * ent M k j) = g r * fill + g (skip r j) := by
  rw [sumTo_congr (g := fun k => (if k = r then g k * fill else 0) + (if k = skip r j then g k else 0))
      (fun k hk => by
        rw [h.2 k j hk hj]
        by_cases h2 : k = skip r j
        · subst h2; simp [skip_ne]
        · simp only [h2, if_false, Int.add_zero]; split <;> simp),
    sumTo_add, sumTo_ite_eq, sumTo_ite_eq, if_pos hr, if_pos (skip_lt n r j hj)]

theorem sum_row {n r : Nat} {fill : Int} {M : IMatrix} (h : EntriesReduced n r fill M) (hr : r < n)
    {i : Nat} (hi : i < n) (g : Nat → Int) :
    sumTo (n - 1) (fun j => ent M i j * g j)
      = if i = r then fill * sumTo (n - 1) g else g (unskip r i) := by
  by_cases h1 : i = r
  · rw [sumTo_congr (g := fun j => fill * g j) (fun j hj => by rw [h.2 i j hi hj, if_pos h1]),
      sumTo_mul_left, if_pos h1]
  · rw [sumTo_congr (g := fun j => if i = skip r j then g j else 0)
        (fun j hj => by rw [h.2 i j hi hj, if_neg h1]; split <;> simp),
      sumTo_skip hr hi, if_neg h1, if_neg h1]

theorem colSum_zero {n o : Nat} {M : IMatrix} (h : EntriesReduced n o (-1) M) (ho : o < n)
    (j : Nat) (hj : j < n - 1) : colSum M n j = 0 := by
  have := sum_col h ho hj (fun _ => 1)
  simpa [colSum] using this

/-! ### the explicit inverse of `[1 | M]`

With `d = 1 - (n - 1) · fill` (the determinant), `d · [1 | M]⁻¹` has first row `e_r - fill · (1 - e_r)`
and row `a + 1` equal to `d · e_(skip r a)` minus the first row.  `fill = 0` gives `treatInv`
(`d = 1`), `fill = -1` gives `sumInvNum` (`d = n`). -/

def invEnt (r : Nat) (fill d : Int) (a k : Nat) : Int :=
  if a = 0 then (if k = r then 1 else -fill)
  else (if k = skip r (a - 1) then d else 0) - (if k = r then 1 else -fill)

theorem sum_invEnt_zero {n r : Nat} (fill : Int) (hr : r < n) :
    sumTo n (fun k => if k = r then 1 else -fill) = 1 + fill - n * fill := by
  rw [sumTo_congr (g := fun k => (if k = r then 1 + fill else 0) + -fill)
      (fun k _ => by split <;> omega),
    sumTo_add, sumTo_ite_eq, sumTo_const, if_pos hr, Int.mul_neg]
  omega

theorem sum_invEnt {n r : Nat} {fill d : Int} (hr : r < n) (hd : d = 1 + fill - n * fill)
    {a : Nat} (ha : a < n) : sumTo n (invEnt r fill d a) = if a = 0 then d else 0 := by
  unfold invEnt
  by_cases h : a = 0
  · simp only [h, if_true]; rw [sum_invEnt_zero fill hr, hd]
  · simp only [h, if_false]
    rw [sumTo_sub, sumTo_ite_eq, sum_invEnt_zero fill hr, if_pos (skip_lt n r _ (by omega)), hd]
    omega

theorem inv_left {n r : Nat} {fill d : Int} {M B : IMatrix} (h : EntriesReduced n r fill M) (hr : r < n) (hd : d = 1 + fill - n * fill)
    (hB : ∀ a k, a < n → k < n → ent B a k = invEnt r fill d a k)
    (a c : Nat) (ha : a < n) (hc : c < n) :
    mulEnt B (withConst M) n a c = if a = c then d else 0 := by
  unfold mulEnt
  cases c with
  | zero =>
    rw [sumTo_congr (g := invEnt r fill d a)
      (fun k hk => by rw [hB a k ha hk, h.ent_const hk, Int.mul_one])]
    exact sum_invEnt hr hd ha
  | succ j =>
    simp only [ent_withConst_succ]
    rw [sum_col h hr (by omega) (fun k => ent B a k), hB a r ha hr,
      hB a _ ha (skip_lt n r j (by omega))]
    have h1 := skip_ne r j
    have h2 := skip_ne r (a - 1)
    have h3 := skip_inj r j (a - 1)
    simp only [invEnt]
    -- `a = 0`: `fill - fill`; `a ≥ 1`: `-fill + d·[j = a - 1] + fill`
    grind

theorem inv_right {n r : Nat} {fill d : Int} {M B : IMatrix} (h : EntriesReduced n r fill M) (hr : r < n) (hd : d = 1 + fill - n * fill)
    (hB : ∀ a k, a < n → k < n → ent B a k = invEnt r fill d a k)
    (i k : Nat) (hi : i < n) (hk : k < n) :
    mulEnt (withConst M) B n i k = if i = k then d else 0 := by
  unfold mulEnt
  rw [sumTo_succ_left (by omega), h.ent_const hi, hB 0 k (by omega) hk]
  simp only [ent_withConst_succ]
  rw [sum_row h hr hi]
  by_cases h1 : i = r
  · rw [if_pos h1, sumTo_congr (g := fun j => (if k = skip r j then d else 0) - (if k = r then 1 else -fill))
      (fun j hj => by rw [hB (j + 1) k (by omega) hk]; simp [invEnt]),
      sumTo_sub, sumTo_skip hr hk, sumTo_const]
    have : ((n - 1 : Nat) : Int) = n - 1 := by omega
    simp only [invEnt, this, h1]
    -- `k = r`: `1 - (n - 1)·fill = d`; `k ≠ r`: `-fill + fill·(d + (n - 1)·fill) = 0`
    grind
  · have h2 := (skip_eq_iff r i _ h1).mpr rfl
    rw [if_neg h1, hB _ k (by have := unskip_lt n r i hi hr h1; omega) hk]
    simp only [invEnt, Nat.add_sub_cancel, ← h2]
    -- the first row cancels, `d·[k = i]` is left
    grind

theorem ent_treatInv (n r a k : Nat) (ha : a < n) (hk : k < n) :
    ent (treatInv n r) a k = invEnt r 0 1 a k := by
  rw [treatInv, ent_table n n _ a k ha hk]; rfl

theorem ent_sumInvNum (n o a k : Nat) (ha : a < n) (hk : k < n) :
    ent (sumInvNum n o) a k = invEnt o (-1) n a k := by
  rw [sumInvNum, ent_table n n _ a k ha hk]; simp [invEnt]

theorem treat_inverse {n r : Nat} {M : IMatrix} (h : EntriesReduced n r 0 M) (hr : r < n)
    (i k : Nat) (hi : i < n) (hk : k < n) :
    mulEnt (treatInv n r) (withConst M) n i k = (if i = k then 1 else 0) ∧
    mulEnt (withConst M) (treatInv n r) n i k = (if i = k then 1 else 0) :=
  ⟨inv_left h hr (by simp) (ent_treatInv n r) i k hi hk,
    inv_right h hr (by simp) (ent_treatInv n r) i k hi hk⟩

theorem sum_inverse {n o : Nat} {M : IMatrix} (h : EntriesReduced n o (-1) M) (ho : o < n)
    (i k : Nat) (hi : i < n) (hk : k < n) :
    mulEnt (sumInvNum n o) (withConst M) n i k = (if i = k then (n : Int) else 0) ∧
    mulEnt (withConst M) (sumInvNum n o) n i k = (if i = k then (n : Int) else 0) :=
  ⟨inv_left h ho (by omega) (ent_sumInvNum n o) i k hi hk,
    inv_right h ho (by omega) (ent_sumInvNum n o) i k hi hk⟩

theorem treatmentBasis_of_entries {n r : Nat} {M : IMatrix} (h : EntriesReduced n r 0 M)
    (hr : r < n) : treatmentBasis n r M = true := by
  simp only [treatmentBasis, Bool.and_eq_true, mulIsScalar_iff]
  exact ⟨⟨⟨h.shape_withConst hr, isShape_table n n _⟩, fun i k hi hk => (treat_inverse h hr i k hi hk).1⟩,
    fun i k hi hk => (treat_inverse h hr i k hi hk).2⟩

theorem sumBasis_of_entries {n o : Nat} {M : IMatrix} (h : EntriesReduced n o (-1) M)
    (ho : o < n) : sumBasis n o M = true := by
  simp only [sumBasis, Bool.and_eq_true, mulIsScalar_iff, decide_eq_true_eq]
  exact ⟨⟨⟨⟨by omega, h.shape_withConst ho⟩, isShape_table n n _⟩,
    fun i k hi hk => (sum_inverse h ho i k hi hk).1⟩, fun i k hi hk => (sum_inverse h ho i k hi hk).2⟩

theorem spansIndicators_of_entries {n o : Nat} {M : IMatrix}
    (h : EntriesReduced n o (-1) M) (ho : o < n) : spansIndicators n o (withConst M) = true := by
  simp only [spansIndicators, Bool.and_eq_true, mulIsScalar_iff, decide_eq_true_eq]
  exact ⟨⟨by omega, h.shape_withConst ho⟩, fun i k hi hk => (sum_inverse h ho i k hi hk).2⟩

theorem entries_iff_rows {n r : Nat} {fill : Int} {M : IMatrix} (hr : r < n) :
    EntriesReduced n r fill M ↔ (isShape M n (n - 1) = true ∧ rowIsConst M r (n - 1) fill = true ∧
      allLt n (fun i => i == r || rowIsUnit M i (n - 1) (if i < r then i else i - 1)) = true) := by
  simp only [EntriesReduced, rowIsConst, rowIsUnit, allLt_iff, Bool.or_eq_true, beq_iff_eq]
  refine and_congr_right fun _ => ⟨fun h => ⟨fun j hj => by rw [h r j hr hj, if_pos rfl],
    fun i hi => ?_⟩, fun ⟨hc, hu⟩ i j hi hj => ?_⟩
  · by_cases hir : i = r
    · exact Or.inl hir
    · exact Or.inr fun j hj => by
        rw [h i j hi hj, if_neg hir]; simp only [skip_eq_iff r i j hir, unskip]
  · by_cases hir : i = r
    · rw [if_pos hir, hir]; exact hc j hj
    · rw [if_neg hir, (hu i hi).resolve_left hir j hj]; simp only [skip_eq_iff r i j hir, unskip]

theorem treatmentReduced_iff {levels : List String} {r : Nat} {M : IMatrix} {labels : List String}
    (hr : r < levels.length) :
    treatmentReduced levels r M labels = true ↔
      EntriesReduced levels.length r 0 M ∧ labels = levels.eraseIdx r := by
  simp only [treatmentReduced, Bool.and_eq_true, beq_iff_eq, entries_iff_rows hr]
  constructor
  · rintro ⟨⟨⟨⟨hs, hc⟩, hu⟩, hlab⟩, _⟩; exact ⟨⟨hs, hc, hu⟩, hlab⟩
  · rintro ⟨⟨hs, hc, hu⟩, rfl⟩; exact ⟨⟨⟨⟨hs, hc⟩, hu⟩, rfl⟩, List.length_eraseIdx_of_lt hr⟩

/-- the column sums demanded by `sumReduced` follow from the rows (`colSum_zero`) -/
theorem sumReduced_iff {levels : List String} {o : Nat} {M : IMatrix} {labels : List String}
    (ho : o < levels.length) :
    sumReduced levels o M labels = true ↔
      EntriesReduced levels.length o (-1) M ∧ labels = levels.eraseIdx o := by
  simp only [sumReduced, Bool.and_eq_true, beq_iff_eq, allLt_iff (p := fun j => colSum _ _ j == 0)]
  constructor
  · rintro ⟨⟨⟨⟨⟨hs, hc⟩, hu⟩, _⟩, hlab⟩, _⟩; exact ⟨(entries_iff_rows ho).mpr ⟨hs, hc, hu⟩, hlab⟩
  · rintro ⟨h, rfl⟩
    obtain ⟨hs, hc, hu⟩ := (entries_iff_rows ho).mp h
    exact ⟨⟨⟨⟨⟨hs, hc⟩, hu⟩, colSum_zero h ho⟩, rfl⟩, List.length_eraseIdx_of_lt ho⟩

theorem dropFirstColumn_withConst (M : IMatrix) : dropFirstColumn (withConst M) = M := by
  simp only [dropFirstColumn, withConst, List.map_map]
  conv => rhs; rw [← List.map_id M]
  apply List.map_congr_left; intro row _; simp

theorem sumFull_of_entries {levels : List String} {o : Nat} {M : IMatrix}
    (h : EntriesReduced levels.length o (-1) M) (ho : o < levels.length) :
    sumFull levels o (withConst M) ("mean" :: levels.eraseIdx o) = true := by
  simp only [sumFull, Bool.and_eq_true, allLt_iff, beq_iff_eq, dropFirstColumn_withConst]
  exact ⟨⟨⟨h.shape_withConst ho, fun i hi => h.ent_const hi⟩, rfl⟩,
    (sumReduced_iff ho).mpr ⟨h, rfl⟩⟩

theorem splice_eq {α} (f : Nat → α) (z : α) {m r : Nat} (hr : r ≤ m) :
    ((List.range m).map f).take r ++ [z] ++ ((List.range m).map f).drop r
      = (List.range (m + 1)).map fun i => if i < r then f i else if i = r then z else f (i - 1) := by
  induction r generalizing m f with
  | zero => simp [List.range_succ_eq_map, Function.comp_def]
  | succ r ih =>
    obtain ⟨m, rfl⟩ : ∃ k, m = k + 1 := ⟨m - 1, by omega⟩
    rw [List.range_succ_eq_map, List.range_succ_eq_map (n := m + 1)]
    simp only [List.map_cons, List.map_map, List.take_succ_cons, List.drop_succ_cons,
      List.cons_append, Function.comp_def]
    rw [ih (fun i => f (i + 1)) (by omega)]
    simp only [Nat.zero_lt_succ, if_true, List.cons.injEq, true_and]
    apply List.map_congr_left
    intro a _
    simp only [Nat.succ_eq_add_one, Nat.add_lt_add_iff_right, Nat.add_right_cancel_iff,
      Nat.add_sub_cancel]
    split
    · rfl
    · split
      · rfl
      · congr 1; omega

def reducedClosed (n r : Nat) (fill : Int) : IMatrix :=
  (List.range n).map fun i => (List.range (n - 1)).map fun j =>
    if i = r then fill else if i = skip r j then 1 else 0

theorem entries_reducedClosed (n r : Nat) (fill : Int) : EntriesReduced n r fill (reducedClosed n r fill) :=
  ⟨isShape_table n (n - 1) _, fun i j hi hj => ent_table n (n - 1) _ i j hi hj⟩

/-- `vstack((eye[:r], fill, eye[r:]))`: the row above `r` is `e_i`, below it `e_(i-1)`, that is
`e_(unskip r i)` -/
theorem reduced_eq (n r : Nat) (fill : Int) (hr : r < n) :
    (eye (n - 1)).take r ++ [List.replicate (n - 1) fill] ++ (eye (n - 1)).drop r
      = reducedClosed n r fill := by
  rw [eye, splice_eq _ _ (by omega), Nat.sub_add_cancel (by omega), reducedClosed]
  apply List.map_congr_left
  intro i _
  by_cases h : i = r
  · simp [h, List.map_const']
  · simp only [if_neg h, (skip_eq_iff r i _ h).trans eq_comm, unskip]
    split <;> rfl

theorem dropLevel_eq (levels : List String) (r : Nat) : dropLevel levels r = levels.eraseIdx r := by
  simp [dropLevel, List.eraseIdx_eq_take_drop_succ]

theorem referenceIndex_lt {ref : Option String} {levels : List String} {r : Nat}
    (h : referenceIndex? ref levels = some r) : r < levels.length := by
  cases ref <;> simp [referenceIndex?] at h
  · exact h.2 ▸ List.length_pos_iff.mpr h.1
  · exact h.2 ▸ List.idxOf_lt_length_iff.mpr h.1

theorem omitIndex_lt {om : Option String} {levels : List String} {o : Nat}
    (h : omitIndex? om levels = some o) : o < levels.length := by
  cases om <;> simp [omitIndex?] at h
  · have := List.length_pos_iff.mpr h.1; omega
  · exact h.2 ▸ List.idxOf_lt_length_iff.mpr h.1

theorem treatment_without_ok {ref : Option String} {levels : List String} {r : Nat}
    (h : referenceIndex? ref levels = some r) :
    Treatment.codeWithoutIntercept ref levels
      = .ok ⟨reducedClosed levels.length r 0, levels.eraseIdx r⟩ := by
  have hr := referenceIndex_lt h
  have hn : levels.length ≠ 0 := by omega
  have hri : Treatment.referenceIndex ref levels = .ok r := by
    cases ref <;> simp_all [referenceIndex?, Treatment.referenceIndex]
  simp only [Treatment.codeWithoutIntercept, hri, bind, Except.bind, hn, if_false, pure, Except.pure]
  rw [reduced_eq _ _ _ hr, dropLevel_eq]

theorem treatment_without_err {ref : Option String} {levels : List String}
    (h : referenceIndex? ref levels = none) :
    ∃ e, Treatment.codeWithoutIntercept ref levels = .error e := by
  cases ref <;>
    simp_all [referenceIndex?, Treatment.codeWithoutIntercept, Treatment.referenceIndex, bind,
      Except.bind, throw, throwThe, MonadExceptOf.throw]

theorem omitIndex_model {om : Option String} {levels : List String} {o : Nat}
    (h : omitIndex? om levels = some o) : Sum.omitIndex om levels = .ok (o : Int) := by
  have ho := omitIndex_lt h
  cases om <;> simp_all [omitIndex?, Sum.omitIndex] <;> omega

theorem sum_without_ok {om : Option String} {levels : List String} {o : Nat}
    (h : omitIndex? om levels = some o) :
    Sum.codeWithoutIntercept om levels
      = .ok ⟨reducedClosed levels.length o (-1), levels.eraseIdx o⟩ := by
  have ho := omitIndex_lt h
  have hn : ¬ levels.length = 0 := by omega
  simp only [Sum.codeWithoutIntercept, Sum.sumContrast, omitIndex_model h, bind, Except.bind, hn,
    if_false, pure, Except.pure, Int.toNat_natCast]
  rw [reduced_eq _ _ _ ho, dropLevel_eq]

theorem sum_without_err {om : Option String} {levels : List String}
    (h : omitIndex? om levels = none) :
    ∃ e, Sum.codeWithoutIntercept om levels = .error e := by
  cases om <;>
    simp_all [omitIndex?, Sum.codeWithoutIntercept, Sum.sumContrast, Sum.omitIndex, bind,
      Except.bind, throw, throwThe, MonadExceptOf.throw]

theorem sum_with_ok {om : Option String} {levels : List String} {o : Nat}
    (h : omitIndex? om levels = some o) :
    Sum.codeWithIntercept om levels
      = .ok ⟨withConst (reducedClosed levels.length o (-1)), "mean" :: levels.eraseIdx o⟩ := by
  simp [Sum.codeWithIntercept, sum_without_ok h, bind, Except.bind, pure, Except.pure,
    columnStackOnes, withConst]

theorem sum_with_err {om : Option String} {levels : List String}
    (h : omitIndex? om levels = none) :
    ∃ e, Sum.codeWithIntercept om levels = .error e := by
  obtain ⟨e, he⟩ := sum_without_err h
  exact ⟨e, by simp [Sum.codeWithIntercept, he, bind, Except.bind]⟩

theorem isIdentity_eye (n : Nat) : isIdentity (eye n) n = true := by
  simp only [isIdentity, eye, isShape_table, Bool.true_and]
  rw [allLt_iff]; intro i hi; rw [rowIsUnit, allLt_iff]; intro j hj
  rw [ent_table n n _ i j hi hj]; grind

theorem eraseIdx_getElem? (l : List String) (r j : Nat) : (l.eraseIdx r)[j]? = l[skip r j]? := by
  rw [List.getElem?_eraseIdx]; simp only [skip]; split <;> rfl

theorem label_eq_iff {levels : List String} (hn : levels.Nodup) {r i j : Nat}
    (hi : i < levels.length) : levels[i]? = (levels.eraseIdx r)[j]? ↔ i = skip r j := by
  rw [eraseIdx_getElem?, List.getElem?_inj hi hn]

theorem indicatorOfLabel_reduced {levels : List String} {r : Nat} {M : IMatrix}
    (hn : levels.Nodup) (h : EntriesReduced levels.length r 0 M) (hr : r < levels.length) :
    indicatorOfLabel levels (levels.eraseIdx r) M = true := by
  simp only [indicatorOfLabel, allLt_iff, List.length_eraseIdx, if_pos hr, beq_iff_eq]
  intro j hj i hi
  simp only [h.2 i j hi hj, label_eq_iff hn hi]
  have := skip_ne r j
  grind

theorem indicatorOfLabel_full (levels : List String) (hn : levels.Nodup) :
    indicatorOfLabel levels levels (eye levels.length) = true := by
  simp only [indicatorOfLabel, allLt_iff, beq_iff_eq]
  intro j hj i hi
  simp only [eye, ent_table _ _ _ i j hi hj, List.getElem?_inj hi hn]

theorem plusOneAtLabel_reduced {levels : List String} {o : Nat} {M : IMatrix}
    (hn : levels.Nodup) (h : EntriesReduced levels.length o (-1) M) (ho : o < levels.length) :
    plusOneAtLabel levels (levels.eraseIdx o) M 0 = true := by
  simp only [plusOneAtLabel, allLt_iff, List.length_eraseIdx, if_pos ho, Nat.not_lt_zero,
    decide_false, Bool.false_or, Bool.beq_eq_decide_eq, decide_eq_decide,
    decide_eq_true_eq]
  intro j hj i hi
  simp only [h.2 i j hi hj, label_eq_iff hn hi]
  have := skip_ne o j
  grind

theorem plusOneAtLabel_withConst {levels labels : List String} {M : IMatrix} (x : String)
    (h : plusOneAtLabel levels labels M 0 = true) :
    plusOneAtLabel levels (x :: labels) (withConst M) 1 = true := by
  simp only [plusOneAtLabel, allLt_iff, Nat.not_lt_zero, decide_false, Bool.false_or] at h ⊢
  intro j hj
  cases j with
  | zero => simp
  | succ j => simpa [ent_withConst_succ, allLt_iff] using h j (by simpa using hj)

theorem mem_insertSorted (s x : String) (l : List String) :
    x ∈ insertSorted s l ↔ x = s ∨ x ∈ l := by
  induction l with
  | nil => simp [insertSorted]
  | cons t ts ih =>
    simp only [insertSorted]
    split
    · simp
    · split
      · rename_i h; subst h; simp
      · simp [ih]; grind

theorem mem_sortedSet (x : String) (data : List String) : x ∈ sortedSet data ↔ x ∈ data := by
  induction data with
  | nil => simp [sortedSet]
  | cons a l ih =>
    have : sortedSet (a :: l) = insertSorted a (sortedSet l) := rfl
    rw [this, mem_insertSorted, ih]; simp

/-- `a` is below the head of `l`: what `a :: l` needs beyond `l` to be strictly sorted -/
def headBelow (a : String) : List String → Prop
  | [] => True
  | b :: _ => a < b

theorem strictlySorted_cons (a : String) (l : List String) :
    strictlySorted (a :: l) = true ↔ headBelow a l ∧ strictlySorted l = true := by
  cases l with
  | nil => simp [strictlySorted, headBelow]
  | cons b r => simp [strictlySorted, headBelow]

/-- The second conjunct is what the induction needs: inserting above `a` keeps `a` below the head. -/
theorem strictlySorted_insertSorted (s : String) (l : List String) (h : strictlySorted l = true) :
    strictlySorted (insertSorted s l) = true ∧ ∀ a, headBelow a l → a < s → headBelow a (insertSorted s l) := by
  induction l with
  | nil => simp [insertSorted, strictlySorted, headBelow]
  | cons t ts ih =>
    rw [strictlySorted_cons] at h
    simp only [insertSorted]
    split
    · rename_i hst
      refine ⟨?_, fun a _ has => has⟩
      rw [strictlySorted_cons, strictlySorted_cons]; exact ⟨hst, h⟩
    · split
      · rename_i h1 h2
        refine ⟨?_, fun a ha _ => ha⟩
        rw [strictlySorted_cons]; exact h
      · rename_i h1 h2
        have hts : t < s := Decidable.byContradiction fun h3 =>
          h2 (String.le_antisymm (String.not_lt.mp h3) (String.not_lt.mp h1))
        obtain ⟨ih1, ih2⟩ := ih h.2
        refine ⟨?_, fun a ha _ => ha⟩
        rw [strictlySorted_cons]; exact ⟨ih2 t h.1 hts, ih1⟩

theorem strictlySorted_sortedSet (data : List String) : strictlySorted (sortedSet data) = true := by
  induction data with
  | nil => simp [sortedSet, strictlySorted]
  | cons a l ih => exact (strictlySorted_insertSorted a (sortedSet l) ih).1

theorem lt_of_strictlySorted (a : String) (l : List String) (h : strictlySorted (a :: l) = true) :
    ∀ x ∈ l, a < x := by
  induction l generalizing a with
  | nil => simp
  | cons b r ih =>
    rw [strictlySorted_cons] at h
    intro x hx
    rcases List.mem_cons.mp hx with rfl | hx
    · exact h.1
    · exact String.lt_trans h.1 (ih b h.2 x hx)

theorem nodup_of_strictlySorted (l : List String) (h : strictlySorted l = true) : l.Nodup := by
  induction l with
  | nil => simp
  | cons a r ih =>
    rw [List.nodup_cons]
    refine ⟨fun hmem => String.lt_irrefl a (lt_of_strictlySorted a r h a hmem), ih ?_⟩
    exact ((strictlySorted_cons a r).mp h).2

theorem sameSet_iff (a b : List String) : sameSet a b = true ↔ ∀ x, x ∈ a ↔ x ∈ b := by
  simp only [sameSet, Bool.and_eq_true, List.all_eq_true, List.contains_iff_mem]
  constructor
  · intro ⟨h1, h2⟩ x; exact ⟨h1 x, h2 x⟩
  · intro h; exact ⟨fun x hx => (h x).mp hx, fun x hx => (h x).mpr hx⟩

theorem rowAt_idx (M : IMatrix) (cats : List String) (v : String) (hlen : M.length = cats.length)
    (hv : v ∈ cats) : ∃ row, rowAt M (cats.idxOf v : Int) = .ok row ∧ M[cats.idxOf v]? = some row := by
  have hlt : cats.idxOf v < M.length := by rw [hlen]; exact List.idxOf_lt_length_iff.mpr hv
  refine ⟨M[cats.idxOf v], ?_, List.getElem?_eq_getElem hlt⟩
  have h1 : ¬ ((cats.idxOf v : Int) < 0) := by omega
  simp [rowAt, h1, List.getElem?_eq_getElem hlt]

theorem takeRows_codes (M : IMatrix) (cats data : List String) (hlen : M.length = cats.length)
    (hsub : ∀ v, v ∈ data → v ∈ cats) :
    ∃ value, takeRows M (codes cats data) = .ok value ∧
      rowsFollowLevels cats data M value = true := by
  have key : ∃ value, takeRows M (codes cats data) = .ok value ∧ value.length = data.length ∧
      ∀ t (ht : t < data.length), value[t]? = M[cats.idxOf data[t]]? := by
    induction data with
    | nil => exact ⟨[], by simp [takeRows, codes, pure, Except.pure], rfl, by simp⟩
    | cons v rest ih =>
      obtain ⟨value, h1, h2, h3⟩ := ih (fun x hx => hsub x (List.mem_cons_of_mem _ hx))
      have hv : v ∈ cats := hsub v (by simp)
      obtain ⟨row, hr1, hr2⟩ := rowAt_idx M cats v hlen hv
      refine ⟨row :: value, ?_, by simp [h2], ?_⟩
      · simp only [takeRows, codes, List.map_cons, hv, if_true, List.mapM_cons, hr1, bind,
          Except.bind] at h1 ⊢
        rw [h1]; rfl
      · intro t ht
        cases t with
        | zero => simp [hr2]
        | succ t => simpa using h3 t (by simpa using ht)
  obtain ⟨value, h1, hl, h⟩ := key
  refine ⟨value, h1, ?_⟩
  simp only [rowsFollowLevels, hl, beq_self_eq_true, Bool.true_and, allLt_iff]
  intro t ht
  rw [List.getElem?_eq_getElem ht]
  simp [hsub _ (List.getElem_mem ht), h t ht]

/-- `0` for the full treatment coding is a dummy: it has no reference -/
def resolve (c : Contrast) (spans : Bool) (cats : List String) : Option Nat :=
  match c with
  | .treatment ref => if spans then some 0 else referenceIndex? ref cats
  | .sum om => omitIndex? om cats

def closedCode (c : Contrast) (spans : Bool) (cats : List String) (k : Nat) : ContrastMatrix :=
  match c, spans with
  | .treatment _, true => ⟨eye cats.length, cats⟩
  | .treatment _, false => ⟨reducedClosed cats.length k 0, cats.eraseIdx k⟩
  | .sum _, false => ⟨reducedClosed cats.length k (-1), cats.eraseIdx k⟩
  | .sum _, true => ⟨withConst (reducedClosed cats.length k (-1)), "mean" :: cats.eraseIdx k⟩

theorem code_ok {c : Contrast} {spans : Bool} {cats : List String} {k : Nat}
    (h : resolve c spans cats = some k) : c.code spans cats = .ok (closedCode c spans cats k) := by
  cases c with
  | treatment ref =>
    cases spans with
    | true => rfl
    | false => exact treatment_without_ok h
  | sum om =>
    cases spans with
    | true => exact sum_with_ok h
    | false => exact sum_without_ok h

theorem code_err {c : Contrast} {spans : Bool} {cats : List String}
    (h : resolve c spans cats = none) : ∃ e, c.code spans cats = .error e := by
  cases c with
  | treatment ref =>
    cases spans with
    | true => simp [resolve] at h
    | false => exact treatment_without_err h
  | sum om =>
    cases spans with
    | true => exact sum_with_err h
    | false => exact sum_without_err h

theorem closedCode_rows {c : Contrast} {spans : Bool} {cats : List String} {k : Nat} :
    (closedCode c spans cats k).matrix.length = cats.length := by
  cases c <;> cases spans <;> simp [closedCode, eye, reducedClosed, withConst]

theorem codingHolds_closed {c : Contrast} {spans : Bool} {cats : List String} {k : Nat}
    (hn : cats.Nodup) (h : resolve c spans cats = some k) :
    codingHolds c spans cats (closedCode c spans cats k).matrix (closedCode c spans cats k).labels
      = some true := by
  cases c with
  | treatment ref =>
    cases spans with
    | true =>
      simp [codingHolds, closedCode, treatmentFull, isIdentity_eye, indicatorOfLabel_full cats hn]
    | false =>
      simp only [resolve, Bool.false_eq_true, if_false] at h
      have hk := referenceIndex_lt h
      have he := entries_reducedClosed cats.length k 0
      simp [codingHolds, closedCode, h, (treatmentReduced_iff hk).mpr ⟨he, rfl⟩,
        treatmentBasis_of_entries he hk, indicatorOfLabel_reduced hn he hk]
  | sum om =>
    simp only [resolve] at h
    have hk := omitIndex_lt h
    have he := entries_reducedClosed cats.length k (-1)
    cases spans with
    | true =>
      simp [codingHolds, closedCode, h, sumFull_of_entries he hk, spansIndicators_of_entries he hk,
        plusOneAtLabel_withConst _ (plusOneAtLabel_reduced hn he hk)]
    | false =>
      simp [codingHolds, closedCode, h, (sumReduced_iff hk).mpr ⟨he, rfl⟩, sumBasis_of_entries he hk,
        plusOneAtLabel_reduced hn he hk]

/-- what `eval_categorical_box` and `eval_categoric` share: code the categories, take the rows -/
def evalCoded (c : Contrast) (spans : Bool) (cats data : List String) : Except Err Evaluated := do
  let cm ← c.code spans cats
  let value ← takeRows cm.matrix (codes cats data)
  pure ⟨cats, cm, value, spans⟩

def boxContrast (b : Box) : Contrast := match b.contrast with | none => .treatment none | some c => c
def boxCategories (b : Box) : List String :=
  match b.levels with | none => sortedSet b.data | some lv => lv

theorem evalCategoricalBox_eq (b : Box) (spans : Bool) (hn : (boxCategories b).Nodup) :
    evalCategoricalBox b spans = evalCoded (boxContrast b) spans (boxCategories b) b.data := by
  have : evalCategoricalBox b spans = (do
      if ¬ (boxCategories b).Nodup then throw .categoriesNotUnique
      evalCoded (boxContrast b) spans (boxCategories b) b.data) := rfl
  rw [this, if_neg (not_not_intro hn)]

theorem not_resolvable_of_subset {c : Contrast} {spans : Bool} {cats vals : List String}
    (hsub : ∀ v, v ∈ vals → v ∈ cats) (h : resolve c spans cats = none) :
    contrastResolvable c spans vals = false := by
  have hempty : cats = [] → vals = [] := fun he =>
    List.eq_nil_iff_forall_not_mem.mpr fun a ha => by simpa [he] using hsub a ha
  have hmem : ∀ x, x ∉ cats → x ∉ vals := fun x hx hv => hx (hsub x hv)
  clear hsub
  cases c with
  | treatment ref =>
    cases spans <;> cases ref <;> simp_all [resolve, contrastResolvable, referenceIndex?]
  | sum om => cases om <;> simp_all [resolve, contrastResolvable, omitIndex?]

theorem outcome_coded {d : Data} {sp : Spelling} {spans : Bool} {cats : List String}
    (hn : cats.Nodup) (hsub : ∀ v, v ∈ d.values → v ∈ cats)
    (hlv : levelsOK d (meaning sp).2 cats = true) :
    outcomeHolds d sp spans (evalCoded (meaning sp).1 spans cats d.values).toOption = true := by
  cases hk : resolve (meaning sp).1 spans cats with
  | some k =>
    obtain ⟨value, h1, hrows⟩ := takeRows_codes (closedCode (meaning sp).1 spans cats k).matrix
      cats d.values closedCode_rows hsub
    simp only [evalCoded, code_ok hk, bind, Except.bind, h1, pure, Except.pure, Except.toOption,
      outcomeHolds, designHolds, beq_self_eq_true, Bool.true_and, codingHolds_closed hn hk]
    simp [hlv, hrows]
  | none =>
    obtain ⟨e, he⟩ := code_err hk
    simp only [evalCoded, he, bind, Except.bind, Except.toOption, outcomeHolds, optionResolvable,
      not_resolvable_of_subset hsub hk]
    rfl

/-- the levels a box gets: the explicit ones, else the categories of an ordered column -/
def effLevels (d : Data) (lv : Option (List String)) : Option (List String) :=
  match d.orderedCategories, lv with
  | some cats, none => some cats
  | _, l => l

def instArg : ContrastArg → Option Contrast
  | .none => none
  | .cls c => some c.instantiate
  | .inst c => some c

theorem effLevels_some {d : Data} {lv : Option (List String)} {l : List String} :
    effLevels d lv = some l ↔ lv = some l ∨ (lv = none ∧ d.orderedCategories = some l) := by
  obtain ⟨vals, ord⟩ := d
  cases ord <;> cases lv <;> simp [effLevels]

theorem effLevels_plain (vals : List String) (lv : Option (List String)) :
    effLevels ⟨vals, none⟩ lv = lv := by
  cases lv <;> rfl

/-- `CategoricalBox(data, contrast, levels)`: the levels setter makes the only check -/
theorem mkBox_eq (d : Data) (ca : ContrastArg) (lv : Option (List String)) :
    mkBox d ca lv = if (effLevels d lv).all (sameSet · d.values) then
      .ok ⟨d.values, instArg ca, effLevels d lv⟩ else .error .levelsDiffer := by
  have : mkBox d ca lv = (do
      match effLevels d lv with
      | some l => if !sameSet l d.values then throw .levelsDiffer
      | none => pure ()
      pure ⟨d.values, instArg ca, effLevels d lv⟩) := rfl
  rw [this]
  cases effLevels d lv with
  | none => rfl
  | some l => cases h : sameSet l d.values <;> simp [h] <;> rfl

theorem mkBox_ok (d : Data) (ca : ContrastArg) (lv : Option (List String))
    (h : ∀ l, effLevels d lv = some l → arrangement d l = true) :
    mkBox d ca lv = .ok ⟨d.values, instArg ca, effLevels d lv⟩ := by
  rw [mkBox_eq, if_pos]
  cases hl : effLevels d lv with
  | none => rfl
  | some l =>
    have := h l hl
    simp only [arrangement, Bool.and_eq_true] at this
    exact this.2

theorem boxContrast_instArg (data : List String) (ca : ContrastArg) (lv : Option (List String)) :
    boxContrast ⟨data, instArg ca, lv⟩ = meaning.argContrast ca (.treatment none) := by
  cases ca with
  | none => rfl
  | cls c => cases c <;> rfl
  | inst c => rfl

theorem boxCategories_congr (data : List String) (c c' : Option Contrast) (lvs : Option (List String)) :
    boxCategories ⟨data, c, lvs⟩ = boxCategories ⟨data, c', lvs⟩ := rfl

theorem levelsOK_sorted (d : Data) (h : d.orderedCategories = none) :
    levelsOK d none (sortedSet d.values) = true := by
  simp only [levelsOK, h, Bool.and_eq_true, strictlySorted_sortedSet, true_and]
  exact (sameSet_iff _ _).mpr (fun x => mem_sortedSet x _)

theorem outcome_c {d : Data} {sp : Spelling} {spans : Bool} (ca : ContrastArg)
    (lv : Option (List String))
    (hm : meaning sp = (meaning.argContrast ca (.treatment none), lv))
    (harr : ∀ l, effLevels d lv = some l → arrangement d l = true) :
    outcomeHolds d sp spans (evalSpelling d (.c ca lv) spans).toOption = true := by
  have hcats : (boxCategories ⟨d.values, instArg ca, effLevels d lv⟩).Nodup ∧
      ∀ v, v ∈ d.values → v ∈ boxCategories ⟨d.values, instArg ca, effLevels d lv⟩ := by
    cases hl : effLevels d lv with
    | none => exact ⟨nodup_of_strictlySorted _ (strictlySorted_sortedSet _),
        fun v hv => (mem_sortedSet v _).mpr hv⟩
    | some l =>
      have := harr l hl
      simp only [arrangement, Bool.and_eq_true, decide_eq_true_eq] at this
      exact ⟨this.1, fun v hv => ((sameSet_iff _ _).mp this.2 v).mpr hv⟩
  simp only [evalSpelling, C, mkBox_ok d ca lv harr, bind, Except.bind]
  rw [evalCategoricalBox_eq _ _ hcats.1, boxContrast_instArg,
    show meaning.argContrast ca (.treatment none) = (meaning sp).1 by rw [hm]]
  refine outcome_coded hcats.1 hcats.2 ?_
  rw [hm]
  obtain ⟨vals, ord⟩ := d
  cases ord <;> cases lv <;> simp [effLevels, boxCategories, levelsOK]
  -- left: a plain column without `levels=`, whose categories are its sorted values
  simpa [levelsOK] using levelsOK_sorted ⟨vals, none⟩ rfl

/-- Within the scope explicit levels are listed in the spelling; the categories of an ordered
column come in only when the innermost call has no `levels=`. -/
theorem arr_of_scope {d : Data} {sp : Spelling} (hs : inScope d sp = true)
    (hp : (sp == .plain) = false) {lv : Option (List String)}
    (he : ∀ l, lv = some l → l ∈ explicitLevels sp) (hi : lv = none → innerLevels sp = none) :
    ∀ l, effLevels d lv = some l → arrangement d l = true := by
  intro l hl
  simp only [inScope, Bool.and_eq_true, List.all_eq_true] at hs
  rcases effLevels_some.mp hl with h | ⟨h, hc⟩
  · exact hs.1 l (he l h)
  · simpa [hc, hp, hi h] using hs.2

theorem design_plain (d : Data) (spans : Bool) (hs : inScope d .plain = true) :
    outcomeHolds d .plain spans (evalSpelling d .plain spans).toOption = true := by
  obtain ⟨vals, ord⟩ := d
  cases ord with
  | none =>
    exact outcome_coded (sp := .plain) (nodup_of_strictlySorted _ (strictlySorted_sortedSet _))
      (fun v hv => (mem_sortedSet v _).mpr hv) (levelsOK_sorted ⟨vals, none⟩ rfl)
  | some cats =>
    simp [inScope, explicitLevels] at hs
    exact outcome_coded (sp := .plain) hs.1 hs.2 (by simp [meaning, levelsOK])

/-- the `contrast` / `levels` an outer `C(box, c2, l2)` passes on to `CategoricalBox` -/
def outerArg (inner : Option Contrast) (c2 : ContrastArg) : ContrastArg :=
  match c2 with
  | .none => (match inner with | some c => ContrastArg.inst c | none => ContrastArg.none)
  | c => c

def outerLevels (inner l2 : Option (List String)) : Option (List String) :=
  match l2 with | none => inner | lv => lv

theorem C_box (b : Box) (c2 : ContrastArg) (l2 : Option (List String)) :
    C (.box b) c2 l2 = mkBox ⟨b.data, none⟩ (outerArg b.contrast c2)
      (outerLevels b.levels l2) := by
  cases c2 <;> cases l2 <;> rfl

theorem argContrast_outer (c1 c2 : ContrastArg) :
    meaning.argContrast (outerArg (instArg c1) c2) (.treatment none)
      = meaning.argContrast c2 (meaning.argContrast c1 (.treatment none)) := by
  cases c2 with
  | none =>
    cases c1 with
    | none => rfl
    | cls c => cases c <;> rfl
    | inst c => rfl
  | cls c => cases c <;> rfl
  | inst c => rfl

theorem outerLevels_eff (d : Data) (l1 l2 : Option (List String)) :
    outerLevels (effLevels d l1) l2 = effLevels d (l2.orElse fun _ => l1) := by
  obtain ⟨vals, ord⟩ := d
  cases ord <;> cases l1 <;> cases l2 <;> rfl

theorem cc_eq_c {d : Data} {c1 c2 : ContrastArg} {l1 l2 : Option (List String)} {spans : Bool}
    (harr : ∀ l, effLevels d l1 = some l → arrangement d l = true) :
    evalSpelling d (.cc c1 l1 c2 l2) spans
      = evalSpelling d (.c (outerArg (instArg c1) c2) (l2.orElse fun _ => l1)) spans := by
  have hC : ∀ ca lv, C (.data d) ca lv = mkBox d ca lv := fun _ _ => rfl
  simp only [evalSpelling, hC, mkBox_ok d c1 l1 harr, bind, Except.bind, C_box, outerLevels_eff,
    mkBox_eq, effLevels_plain]

/-- `T(C(…), ref)` / `S(C(…), omit)` always raise (the inner call's error, or `AttributeError`) -/
theorem alias_on_box_refused (d : Data) (sp : Spelling) (spans : Bool) (h : aliasOnBox sp = true) :
    ∃ e, evalSpelling d sp spans = .error e := by
  cases sp <;> simp [aliasOnBox] at h
  all_goals
    rename_i c1 l1 _
    simp only [evalSpelling, bind, Except.bind]
    cases C (.data d) c1 l1 <;> exact ⟨_, rfl⟩

/-- The specification holds of the model on every spelling in scope outside the class of the
known finding. -/
theorem design_holds (d : Data) (sp : Spelling) (spans : Bool) (hs : inScope d sp = true)
    (hg : aliasOnBox sp = false) :
    outcomeHolds d sp spans (evalSpelling d sp spans).toOption = true := by
  cases sp with
  | plain => exact design_plain d spans hs
  | c ca lv => exact outcome_c ca lv rfl (arr_of_scope hs rfl (by simp [explicitLevels]) id)
  | t ref lv =>
    exact outcome_c (sp := .t ref lv) (.inst (.treatment ref)) lv rfl
      (arr_of_scope hs rfl (by simp [explicitLevels]) id)
  | s om lv =>
    exact outcome_c (sp := .s om lv) (.inst (.sum om)) lv rfl
      (arr_of_scope hs rfl (by simp [explicitLevels]) id)
  | cc c1 l1 c2 l2 =>
    rw [cc_eq_c (arr_of_scope (lv := l1) hs rfl (by simp +contextual [explicitLevels]) id)]
    exact outcome_c _ _ (by rw [argContrast_outer]; rfl)
      (arr_of_scope hs rfl (by cases l2 <;> simp [explicitLevels])
        (by cases l2 <;> simp [innerLevels]))
  | tc _ _ _ => simp [aliasOnBox] at hg
  | sc _ _ _ => simp [aliasOnBox] at hg

theorem variable_eq_C (d : Data) (spans : Bool) (h : d.orderedCategories = none) :
    evalSpelling d .plain spans = evalSpelling d (.c .none none) spans := by
  obtain ⟨vals, ord⟩ := d
  subst h
  have hn : (sortedSet vals).Nodup := nodup_of_strictlySorted _ (strictlySorted_sortedSet _)
  simp only [evalSpelling, C, mkBox_eq]
  exact (evalCategoricalBox_eq ⟨vals, none, none⟩ spans hn).symm

theorem C_default_eq_T (d : Data) (lv : Option (List String)) (spans : Bool) :
    evalSpelling d (.c .none lv) spans = evalSpelling d (.t none lv) spans := by
  simp only [evalSpelling, C, T, mkBox_eq]
  split <;> rfl

theorem sumToQ_congr {n : Nat} {f g : Nat → Rat} (h : ∀ i, i < n → f i = g i) :
    sumToQ n f = sumToQ n g := by
  induction n with
  | zero => rfl
  | succ n ih => simp only [sumToQ]; rw [ih (fun i hi => h i (by omega)), h n (by omega)]

theorem sumToQ_zero (n : Nat) : sumToQ n (fun _ => 0) = 0 := by
  induction n with
  | zero => rfl
  | succ n ih => simp only [sumToQ, ih]; grind

theorem sumToQ_add (n : Nat) (f g : Nat → Rat) :
    sumToQ n (fun i => f i + g i) = sumToQ n f + sumToQ n g := by
  induction n with
  | zero => simp only [sumToQ]; grind
  | succ n ih => simp only [sumToQ, ih]; grind

theorem sumToQ_mul_left (n : Nat) (c : Rat) (f : Nat → Rat) :
    sumToQ n (fun i => c * f i) = c * sumToQ n f := by
  induction n with
  | zero => simp [sumToQ]
  | succ n ih => simp only [sumToQ, ih]; grind

theorem sumToQ_mul_right (n : Nat) (c : Rat) (f : Nat → Rat) :
    sumToQ n (fun i => f i * c) = sumToQ n f * c := by
  induction n with
  | zero => simp [sumToQ]
  | succ n ih => simp only [sumToQ, ih]; grind

theorem sumToQ_comm (n m : Nat) (F : Nat → Nat → Rat) :
    sumToQ n (fun i => sumToQ m (fun j => F i j)) = sumToQ m (fun j => sumToQ n (fun i => F i j)) := by
  induction n with
  | zero => simp [sumToQ, sumToQ_zero]
  | succ n ih => simp only [sumToQ, ih, sumToQ_add]

theorem sumToQ_ite_eq (n a : Nat) (g : Nat → Rat) :
    sumToQ n (fun m => if m = a then g m else 0) = if a < n then g a else 0 := by
  induction n with
  | zero => rfl
  | succ n ih => simp only [sumToQ, ih]; grind

theorem sumToQ_cast (n : Nat) (f : Nat → Int) :
    ((sumTo n f : Int) : Rat) = sumToQ n (fun i => (f i : Rat)) := by
  induction n with
  | zero => simp [sumTo, sumToQ]
  | succ n ih => simp only [sumTo, sumToQ, ← ih]; simp [Rat.intCast_add]

theorem mulVec_assoc (n : Nat) (P Q : Nat → Nat → Rat) (v : Nat → Rat) (i : Nat) :
    sumToQ n (fun k => sumToQ n (fun c => P i c * Q c k) * v k)
      = sumToQ n (fun c => P i c * sumToQ n (fun k => Q c k * v k)) := by
  have h1 : ∀ k, sumToQ n (fun c => P i c * Q c k) * v k = sumToQ n (fun c => P i c * Q c k * v k) :=
    fun k => (sumToQ_mul_right n (v k) _).symm
  have h2 : ∀ c, P i c * sumToQ n (fun k => Q c k * v k) = sumToQ n (fun k => P i c * (Q c k * v k)) :=
    fun c => (sumToQ_mul_left n (P i c) _).symm
  simp only [h1, h2]
  rw [sumToQ_comm]
  apply sumToQ_congr; intro c _; apply sumToQ_congr; intro k _; grind

theorem mulEnt_cast (A B : IMatrix) (n i k : Nat) :
    ((mulEnt A B n i k : Int) : Rat) = sumToQ n fun m => (ent A i m : Rat) * (ent B m k : Rat) := by
  simp only [mulEnt, sumToQ_cast, Rat.intCast_mul]

theorem scaled_inverse_rat {n : Nat} {s : Int} (hs : s ≠ 0) {A B : IMatrix} {i k : Nat}
    (h : mulEnt A B n i k = if i = k then s else 0) :
    sumToQ n (fun m => (ent A i m : Rat) / s * (ent B m k : Rat)) = (if i = k then 1 else 0) ∧
    sumToQ n (fun m => (ent A i m : Rat) * ((ent B m k : Rat) / s)) = (if i = k then 1 else 0) := by
  have hs' : (s : Rat) ≠ 0 := by exact_mod_cast hs
  have hc := mulEnt_cast A B n i k
  rw [h] at hc
  have key : (1 / (s : Rat)) * sumToQ n (fun m => (ent A i m : Rat) * (ent B m k : Rat))
      = if i = k then 1 else 0 := by
    rw [← hc]; split
    · exact Rat.div_mul_cancel hs'
    · simp
  constructor
  · rw [← key, ← sumToQ_mul_left]; exact sumToQ_congr fun m _ => by grind
  · rw [← key, ← sumToQ_mul_left]; exact sumToQ_congr fun m _ => by grind

theorem mul_scalar_apply {n : Nat} {s : Int} {A B : IMatrix}
    (hAB : ∀ i k, i < n → k < n → mulEnt A B n i k = if i = k then s else 0)
    (v : Nat → Rat) {i : Nat} (hi : i < n) :
    sumToQ n (fun c => (ent A i c : Rat) * sumToQ n (fun k => (ent B c k : Rat) * v k))
      = (s : Rat) * v i := by
  rw [← mulVec_assoc n (fun i c => (ent A i c : Rat)) (fun c k => (ent B c k : Rat)) v i,
    sumToQ_congr (g := fun k => if k = i then (s : Rat) * v k else 0) (fun k hk => by
      rw [← mulEnt_cast, hAB i k hi hk]
      by_cases hik : k = i
      · simp [hik]
      · rw [if_neg hik, if_neg (Ne.symm hik)]; simp),
    sumToQ_ite_eq, if_pos hi]

theorem independent_of_left_inverse {n : Nat} {s : Int} (hs : s ≠ 0) {A B : IMatrix}
    (hAB : ∀ i k, i < n → k < n → mulEnt A B n i k = if i = k then s else 0)
    (v : Nat → Rat) (hv : ∀ i, i < n → sumToQ n (fun c => (ent B i c : Rat) * v c) = 0) :
    ∀ c, c < n → v c = 0 := by
  intro c hc
  have h1 := mul_scalar_apply hAB v hc
  rw [sumToQ_congr (g := fun _ => 0) (fun m hm => by rw [hv m hm]; simp), sumToQ_zero] at h1
  have hs' : (s : Rat) ≠ 0 := by exact_mod_cast hs
  exact (Rat.mul_eq_zero.mp h1.symm).resolve_left hs'

theorem spanning_of_right_inverse {n : Nat} {s : Int} (hs : s ≠ 0) {A B : IMatrix}
    (hBA : ∀ i k, i < n → k < n → mulEnt B A n i k = if i = k then s else 0)
    (f : Nat → Rat) :
    ∀ i, i < n → sumToQ n (fun c => (ent B i c : Rat) *
        (sumToQ n (fun k => (ent A c k : Rat) * f k) / s)) = f i := by
  intro i hi
  have hs' : (s : Rat) ≠ 0 := by exact_mod_cast hs
  have h1 := mul_scalar_apply hBA f hi
  rw [sumToQ_congr (g := fun c => (ent B i c : Rat) * sumToQ n (fun k => (ent A c k : Rat) * f k) * (1 / (s : Rat)))]
  · rw [sumToQ_mul_right, h1]
    grind
  · intro c _; grind

end FormulaeModel.Proofs.Coding
