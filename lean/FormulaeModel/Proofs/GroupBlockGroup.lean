import FormulaeModel.Proofs.GroupBlockTrain
import FormulaeModel.Proofs.RowsTerm
/-
`trainGroup`: the block of a group-specific term `(e | g)` is, row by row, the Kronecker product of
the indicator row of the row's cell with the effect row; its labels and group names.
-/
namespace FormulaeModel.Design

def factorColumns (env : Env) (table : List (String × Expr)) (names : List String) :
    M (List (Val × List (Option Level))) :=
  names.mapM (fun nm => do
    let v ← factorVal env nm (← compExpr table nm)
    pure (v, ← valLevels v))

inductive FactorOuts : List CompOut → List (Val × List (Option Level)) → Prop
  | nil : FactorOuts [] []
  | cons {o : CompOut} {col : Val × List (Option Level)} {outs : List CompOut}
      {cols : List (Val × List (Option Level))} :
      FactorComp o.st.name o.st.expr true col.1 col.2 o → FactorOuts outs cols →
      FactorOuts (o :: outs) (col :: cols)

theorem factor_outs (env : Env) (table : List (String × Expr)) (cs : List (String × Bool))
    (hfull : ∀ c ∈ cs, c.2 = true) (outs : List CompOut)
    (h : cs.mapM (fun (c : String × Bool) => do
        trainComp env c.1 (← compExpr table c.1) true false c.2) = .ok outs) :
    ∃ cols, factorColumns env table (cs.map (·.1)) = .ok cols ∧ FactorOuts outs cols ∧
      outs.map (·.st.name) = cs.map (·.1) := by
  induction cs generalizing outs with
  | nil =>
    simp only [List.mapM_nil, pure_ok] at h
    subst h
    exact ⟨[], rfl, FactorOuts.nil, rfl⟩
  | cons c cs ih =>
    rw [List.mapM_cons] at h
    simp only [bind_ok, pure_ok] at h
    obtain ⟨o, ⟨e, he, ho⟩, outs', houts', rfl⟩ := h
    obtain ⟨cols, hcols, hF, hnames⟩ := ih (fun c' hc' => hfull c' (by simp [hc'])) outs' houts'
    rw [hfull c (by simp)] at ho
    obtain ⟨v, xs, hv, hxs, hf⟩ := trainComp_factor env c.1 e true o ho
    refine ⟨(v, xs) :: cols, ?_, ?_, ?_⟩
    · simp only [factorColumns, List.map_cons, List.mapM_cons, bind_ok, pure_ok]
      exact ⟨(v, xs), ⟨e, he, v, hv, xs, hxs, rfl⟩, cols, hcols, rfl⟩
    · refine FactorOuts.cons ?_ hF
      rw [hf.name_eq, hf.expr_eq]
      exact hf
    · simp [hf.name_eq, hnames]

theorem FactorOuts.length_eq {outs : List CompOut} {cols : List (Val × List (Option Level))}
    (hF : FactorOuts outs cols) : outs.length = cols.length := by
  induction hF with
  | nil => rfl
  | cons _ _ ih => simp [ih]

theorem FactorOuts.values {outs : List CompOut} {cols : List (Val × List (Option Level))}
    (hF : FactorOuts outs cols)
    (ht : ∀ o ∈ outs, o.st.contrast = some (treatmentFull o.st.levels)) :
    reduceMatrices (outs.map (·.value)) = newFactorMatrix (outs.map (·.st)) (cols.map (·.2)) := by
  unfold newFactorMatrix
  congr 1
  induction hF with
  | nil => rfl
  | @cons o col outs cols hf _ ih =>
    simp only [List.map_cons, List.zipWith_cons_cons]
    rw [ih (fun o' ho' => ht o' (by simp [ho'])), hf.value_eq (ht o (by simp))]

/-- `lps`: for every further component its label list and the position.  The label at the
mixed-radix position `cellIndex g …` of the folded label product is the `:`-join of the labels at
the component positions; the induction carries the accumulated position `g * len + pos`. -/
theorem foldl_labelProd_getElem? (lps : List (List String × Nat)) (acc : List String) (g : Nat)
    (hg : g < acc.length) (h : ∀ p ∈ lps, p.2 < p.1.length) :
    ((lps.map (·.1)).foldl interactionLabels acc)[cellIndex g (lps.map (fun p => (p.1.length, p.2)))]? =
      some (lps.foldl (fun s p => s ++ ":" ++ p.1.getD p.2 "") acc[g]) ∧
    ((lps.map (·.1)).foldl interactionLabels acc).length = cellCount acc.length (lps.map (·.1.length)) := by
  induction lps generalizing acc g with
  | nil => simp [cellIndex, cellCount, List.getElem?_eq_getElem hg]
  | cons p lps ih =>
    have hp := h p (by simp)
    simp only [List.map_cons, List.foldl_cons, cellIndex, cellCount]
    have hlen : (interactionLabels acc p.1).length = acc.length * p.1.length := by
      rw [interactionLabels_eq, length_labelProd]
    have hlt : g * p.1.length + p.2 < (interactionLabels acc p.1).length := by
      rw [hlen]; exact cell_lt _ _ _ _ hg hp
    obtain ⟨h1, h2⟩ := ih (interactionLabels acc p.1) (g * p.1.length + p.2) hlt
      (fun q hq => h q (by simp [hq]))
    simp only [cellIndex, cellCount] at h1 h2
    rw [h1, h2, hlen]
    refine ⟨?_, rfl⟩
    congr 2
    have := labelProd_getElem? colon acc p.1 g p.2 hg hp
    rw [← interactionLabels_eq, List.getElem?_eq_getElem hlt] at this
    simp only [Option.some.injEq] at this
    rw [this]
    simp [colon, List.getD_eq_getElem?_getD, List.getElem?_eq_getElem hp]

/-- the effect matrix of `(e | g)`: a column of ones for the intercept, else the matrix of `e` -/
def effectData (env : Env) (table : List (String × Expr)) (spec : GroupSpec) : M Matrix :=
  match spec.expr with
  | none => pure (onesCol env.frame.nrows)
  | some ts => (trainTerm env table ts false false).map (·.data)

def effectLabels (env : Env) (table : List (String × Expr)) (spec : GroupSpec) : M (Option (List String)) :=
  match spec.expr with
  | none => pure (some ["1"])
  | some ts => (trainTerm env table ts false false).map (·.labels)

def factorSpecOf (spec : GroupSpec) : TermSpec :=
  { spec.factor with comps := spec.factor.comps.map (fun c => (c.1, true)) }

theorem trainGroup_parts (env : Env) (table : List (String × Expr)) (spec : GroupSpec) (out : GroupOut)
    (h : trainGroup env table spec = .ok out) :
    ∃ f X el, trainTerm env table (factorSpecOf spec) true false = .ok f ∧
      effectData env table spec = .ok X ∧ effectLabels env table spec = .ok el ∧
      out.data = khatriRao f.data X ∧ out.st.factor = f.st ∧ out.st.name = spec.name ∧
      out.st.groups = reduceLabels (f.st.comps.map (fun c => (c.contrast.map (·.labels)).getD [])) ∧
      out.labels = (do
        let fl ← f.labels
        let el ← el
        pure (fl.flatMap (fun g => el.map (fun l => l ++ "|" ++ g)))) := by
  obtain ⟨f, xi, est, kind, el, hf, hcase, rfl⟩ := trainGroup_ok env table spec out h
  rcases hcase with ⟨hse, rfl, rfl, rfl, rfl⟩ | ⟨ts, t, hse, ht, rfl, rfl, rfl, rfl⟩
  · exact ⟨f, _, _, hf, by simp [effectData, hse, pure, Except.pure],
      by simp [effectLabels, hse, pure, Except.pure], rfl, rfl, rfl, rfl, rfl⟩
  · exact ⟨f, _, _, hf, by simp [effectData, hse, ht, Except.map],
      by simp [effectLabels, hse, ht, Except.map], rfl, rfl, rfl, rfl, rfl⟩

theorem FactorOuts.get {outs : List CompOut} {cols : List (Val × List (Option Level))}
    (hF : FactorOuts outs cols) (i : Nat) (o : CompOut) (col : Val × List (Option Level))
    (ho : outs[i]? = some o) (hc : cols[i]? = some col) :
    FactorComp o.st.name o.st.expr true col.1 col.2 o := by
  induction hF generalizing i with
  | nil => simp at ho
  | cons hf _ ih =>
    cases i with
    | zero =>
      simp only [List.getElem?_cons_zero, Option.some.injEq] at ho hc
      subst ho; subst hc
      exact hf
    | succ i =>
      simp only [List.getElem?_cons_succ] at ho hc
      exact ih i ho hc

/-- `outs`: the trained components; `cols`: the value and the row-by-row levels each read -/
structure FactorParts (env : Env) (table : List (String × Expr)) (spec : GroupSpec) (f : TermOut)
    (outs : List CompOut) (cols : List (Val × List (Option Level))) : Prop where
  columns : factorColumns env table (spec.factor.comps.map (·.1)) = .ok cols
  trained : FactorOuts outs cols
  names : outs.map (·.st.name) = spec.factor.comps.map (·.1)
  comps : f.st.comps = outs.map (·.st)
  labels : f.labels = (outs.mapM (fun (o : CompOut) => o.labels)).map reduceLabels
  length : f.st.comps.length = cols.length
  nonzero : NoZeroRow f.data
  data : (∀ c ∈ f.st.comps, c.contrast = some (treatmentFull c.levels)) →
    f.data = newFactorMatrix f.st.comps (cols.map (·.2))

theorem trainTerm_factor_parts (env : Env) (table : List (String × Expr)) (spec : GroupSpec) (f : TermOut)
    (h : trainTerm env table (factorSpecOf spec) true false = .ok f) :
    ∃ outs cols, FactorParts env table spec f outs cols := by
  have hfull : ∀ c ∈ (factorSpecOf spec).comps, c.2 = true := by
    intro c hc
    obtain ⟨_, _, rfl⟩ := List.mem_map.1 hc
    rfl
  have hnz : NoZeroRow f.data := by
    by_cases hne : (factorSpecOf spec).comps = []
    · unfold trainTerm at h
      rw [hne] at h
      cases h
      intro r hr
      cases hr
    · exact trainTerm_nonzero env table _ f hne hfull h
  unfold trainTerm at h
  simp only [bind_ok, pure_ok] at h
  obtain ⟨outs, houts, rfl⟩ := h
  obtain ⟨cols, h1, h2, h3⟩ := factor_outs env table (factorSpecOf spec).comps hfull outs houts
  have hn : (factorSpecOf spec).comps.map (·.1) = spec.factor.comps.map (·.1) := by
    simp [factorSpecOf, List.map_map, Function.comp_def]
  rw [hn] at h1 h3
  exact ⟨outs, cols, h1, h2, h3, rfl, rfl, by simp [h2.length_eq], hnz,
    fun ht => h2.values (fun o ho => ht o.st (List.mem_map.2 ⟨o, ho, rfl⟩))⟩

theorem FactorParts.compNames {env : Env} {table : List (String × Expr)} {spec : GroupSpec} {f : TermOut}
    {outs : List CompOut} {cols : List (Val × List (Option Level))}
    (hP : FactorParts env table spec f outs cols) :
    f.st.comps.map (·.name) = spec.factor.comps.map (·.1) := by
  rw [hP.comps, List.map_map]
  exact hP.names

theorem FactorParts.order {env : Env} {table : List (String × Expr)} {spec : GroupSpec} {f : TermOut}
    {outs : List CompOut} {cols : List (Val × List (Option Level))}
    (hP : FactorParts env table spec f outs cols) (i : Nat) (c : CompState)
    (col : Val × List (Option Level)) (hc : f.st.comps[i]? = some c) (hcol : cols[i]? = some col) :
    LevelOrder (valDeclared col.1) col.2 c.levels := by
  rw [hP.comps, List.getElem?_map] at hc
  cases ho : outs[i]? with
  | none => rw [ho] at hc; cases hc
  | some o =>
    rw [ho] at hc
    cases hc
    exact (hP.trained.get i o col ho hcol).order

theorem FactorOuts.labels {outs : List CompOut} {cols : List (Val × List (Option Level))}
    (hF : FactorOuts outs cols)
    (ht : ∀ o ∈ outs, o.st.contrast = some (treatmentFull o.st.levels)) :
    outs.mapM (fun (o : CompOut) => o.labels) =
      some (outs.map (fun o => o.st.levels.map (fun l => o.st.name ++ "[" ++ l.label ++ "]"))) := by
  induction hF with
  | nil => rfl
  | @cons o col outs cols hf _ ih =>
    obtain ⟨hl, _, _⟩ := hf.indicator (ht o (by simp))
    rw [List.mapM_cons, hl, ih (fun o' ho' => ht o' (by simp [ho']))]
    rfl

theorem groups_of_treatment (cs : List CompState)
    (ht : ∀ c ∈ cs, c.contrast = some (treatmentFull c.levels)) :
    cs.map (fun c => (c.contrast.map (·.labels)).getD []) = cs.map (fun c => c.levels.map Level.label) := by
  apply List.map_congr_left
  intro c hc
  rw [ht c hc]
  rfl

theorem trainGroup_reads (env : Env) (table : List (String × Expr)) (spec : GroupSpec) (out : GroupOut)
    (h : trainGroup env table spec = .ok out) :
    ∃ f outs cols X, FactorParts env table spec f outs cols ∧ out.st.factor = f.st ∧
      effectData env table spec = .ok X ∧ out.data = khatriRao f.data X := by
  obtain ⟨f, X, el, hf, hX, _, hdata, hst, _, _, _⟩ := trainGroup_parts env table spec out h
  obtain ⟨outs, cols, hP⟩ := trainTerm_factor_parts env table spec f hf
  exact ⟨f, outs, cols, X, hP, hst, hX, hdata⟩

/-- no coding hypothesis -/
theorem trainGroup_factor (env : Env) (table : List (String × Expr)) (spec : GroupSpec) (out : GroupOut)
    (h : trainGroup env table spec = .ok out) (cols : List (Val × List (Option Level)))
    (hcols : factorColumns env table (spec.factor.comps.map (·.1)) = .ok cols) :
    out.st.factor.comps.map (·.name) = spec.factor.comps.map (·.1) ∧
      out.st.factor.comps.length = cols.length ∧
      ∀ (i : Nat) (c : CompState) (col : Val × List (Option Level)),
        out.st.factor.comps[i]? = some c → cols[i]? = some col →
        LevelOrder (valDeclared col.1) col.2 c.levels := by
  obtain ⟨f, outs, cols', X, hP, hst, _, _⟩ := trainGroup_reads env table spec out h
  cases hcols.symm.trans hP.columns
  rw [hst]
  exact ⟨hP.compNames, hP.length, hP.order⟩

/-- `rowCell_some_lt` gives the ranges of the cell `ps` -/
theorem trainGroup_row (env : Env) (table : List (String × Expr)) (spec : GroupSpec) (out : GroupOut)
    (h : trainGroup env table spec = .ok out)
    (ht : ∀ c ∈ out.st.factor.comps, c.contrast = some (treatmentFull c.levels))
    (cols : List (Val × List (Option Level)))
    (hcols : factorColumns env table (spec.factor.comps.map (·.1)) = .ok cols) (X : Matrix)
    (hX : effectData env table spec = .ok X) (r : Nat) (hr : r < out.data.length) :
    ∃ ps x, rowCell (out.st.factor.comps.map (·.levels)) (cols.map (·.2)) r = some ps ∧
      cellIndex 0 ps < cellCount 1 (out.st.factor.comps.map (·.levels.length)) ∧
      X[r]? = some x ∧
      out.data[r] = rowProd (unitE (cellCount 1 (out.st.factor.comps.map (·.levels.length)))
        (cellIndex 0 ps)) x := by
  obtain ⟨f, outs, cols', X', hP, hst, hX', hdata⟩ := trainGroup_reads env table spec out h
  cases hcols.symm.trans hP.columns
  cases hX.symm.trans hX'
  rw [hst] at ht ⊢
  have hJ := hP.data ht
  have hr' := hr
  simp only [hdata, khatriRao, interactionMatrix_length] at hr'
  have hrf : r < f.data.length := by omega
  have hrX : r < X.length := by omega
  obtain ⟨ps, h1, _, _, h4, h5⟩ := newFactorMatrix_row_seen f.st.comps (cols.map (·.2))
    (by simpa using hP.length) r (hJ ▸ hrf) (by
      have := hP.nonzero _ (List.getElem_mem hrf)
      simpa only [hJ] using this)
  refine ⟨ps, X[r], h1, h4, List.getElem?_eq_getElem hrX, ?_⟩
  simp only [hdata, khatriRao]
  rw [interactionMatrix_row f.data X r hrf hrX, ← h5]
  simp only [hJ]

theorem trainGroup_labels (env : Env) (table : List (String × Expr)) (spec : GroupSpec) (out : GroupOut)
    (h : trainGroup env table spec = .ok out)
    (ht : ∀ c ∈ out.st.factor.comps, c.contrast = some (treatmentFull c.levels)) :
    ∃ el, effectLabels env table spec = .ok el ∧
      out.st.groups = reduceLabels (out.st.factor.comps.map (fun c => c.levels.map Level.label)) ∧
      out.labels = el.map (fun el =>
        labelProd bar (reduceLabels (out.st.factor.comps.map (fun c =>
          c.levels.map (fun l => c.name ++ "[" ++ l.label ++ "]")))) el) := by
  obtain ⟨f, X, el, hf, _, hel, _, hst, _, hgroups, hlabels⟩ := trainGroup_parts env table spec out h
  obtain ⟨outs, cols, hP⟩ := trainTerm_factor_parts env table spec f hf
  have hcs : out.st.factor.comps = outs.map (·.st) := by rw [hst, hP.comps]
  have ht' : ∀ o ∈ outs, o.st.contrast = some (treatmentFull o.st.levels) := by
    intro o ho
    exact ht o.st (by rw [hcs]; exact List.mem_map.2 ⟨o, ho, rfl⟩)
  refine ⟨el, hel, ?_, ?_⟩
  · rw [hgroups, ← hst, groups_of_treatment _ ht]
  · rw [hlabels, hP.labels, hP.trained.labels ht', hcs]
    cases el with
    | none => rfl
    | some el =>
      simp only [Option.map_some, List.map_map, Function.comp_def]
      rfl

end FormulaeModel.Design
