import FormulaeModel.Proofs.PermComp
import FormulaeModel.Proofs.RowsDesign
/-
Terms, group-specific terms and term lists trained on the row-permuted frame: same state, same
labels, data with its rows permuted.
-/
namespace FormulaeModel.Design
open FormulaeModel.Spec.C06

def CompOut.perm (o : CompOut) (sigma : List Nat) : CompOut := ⟨o.st, selectRows o.value sigma, o.labels⟩
def TermOut.perm (o : TermOut) (sigma : List Nat) : TermOut := ⟨o.st, selectRows o.data sigma, o.labels⟩
def GroupOut.perm (o : GroupOut) (sigma : List Nat) : GroupOut := ⟨o.st, selectRows o.data sigma, o.labels⟩

section
variable (env : Env) (hwf : env.frame.wellFormed = true) (hn : env.namesScalar = true) (sigma : List Nat)
  (hp : IsPerm sigma env.frame.nrows)
include hwf hn hp

theorem trainTerm_perm (table : List (String × Expr)) (spec : TermSpec) (forced isResponse : Bool)
    (out : TermOut) (hne : spec.comps ≠ [])
    (h : trainTerm env table spec forced isResponse = .ok out) :
    trainTerm (env.rows sigma) table spec forced isResponse = .ok (out.perm sigma) ∧
      out.data.length = env.frame.nrows := by
  obtain ⟨outs, houts, hlen, rfl⟩ := trainTerm_ok _ _ _ _ _ _ h
  have hne' : outs ≠ [] := fun h0 => hne (List.length_eq_zero_iff.1 (h0 ▸ hlen).symm)
  unfold trainTerm
  simp only [bind_ok, pure_ok]
  have hcomp : ∀ c ∈ spec.comps, ∀ o,
      (do trainComp env c.1 (← compExpr table c.1) forced isResponse c.2) = Except.ok o →
      (do trainComp (env.rows sigma) c.1 (← compExpr table c.1) forced isResponse c.2) =
          Except.ok (o.perm sigma) ∧ o.value.length = env.frame.nrows := by
    intro c hc o ho
    simp only [bind_ok] at ho ⊢
    obtain ⟨e, he, ho⟩ := ho
    obtain ⟨h1, h2⟩ := trainComp_perm env hwf hn sigma hp c.1 e forced isResponse c.2 o ho
    exact ⟨⟨e, he, h1⟩, h2⟩
  have hnew := mapM_ok_of _ (fun (c : String × Bool) => do
      trainComp (env.rows sigma) c.1 (← compExpr table c.1) forced isResponse c.2)
    (fun o => o.perm sigma) _ _ houts (fun c hc o ho => (hcomp c hc o ho).1)
  have hlens := mapM_forall _ (fun o => o.value.length = env.frame.nrows) _ _ houts
    (fun c hc o ho => (hcomp c hc o ho).2)
  refine ⟨⟨_, hnew, ?_⟩, reduceMatrices_length _ (by simpa using hne') _ (by simpa using hlens)⟩
  have hst : (outs.map (fun o => o.perm sigma)).map (·.st) = outs.map (·.st) := by
    simp [List.map_map, Function.comp_def, CompOut.perm]
  have hval : (outs.map (fun o => o.perm sigma)).map (·.value) = (outs.map (·.value)).map (selectRows · sigma) := by
    simp [List.map_map, Function.comp_def, CompOut.perm]
  have hlab : (outs.map (fun o => o.perm sigma)).mapM (fun (o : CompOut) => o.labels) =
      outs.mapM (fun (o : CompOut) => o.labels) := by
    rw [List.mapM_map]
    rfl
  have hne'' : outs.map (·.value) ≠ [] := by simpa using hne'
  simp only [TermOut.perm, hst, hval, hlab]
  rw [selectRows_reduceMatrices _ hne'' sigma]
  -- the `kind` (read off the number of outputs) reduces only once that number is known; it is the
  -- same on both sides since the states are
  clear hnew hlens hst hval hlab hne'' hne' hlen houts hcomp
  rcases outs with _ | ⟨o, _ | ⟨o', os⟩⟩ <;> rfl

theorem trainGroup_perm (table : List (String × Expr)) (spec : GroupSpec) (out : GroupOut)
    (hnf : spec.factor.comps ≠ []) (hne : ∀ ts, spec.expr = some ts → ts.comps ≠ [])
    (h : trainGroup env table spec = .ok out) :
    trainGroup (env.rows sigma) table spec = .ok (out.perm sigma) ∧
      out.data.length = env.frame.nrows := by
  have hnr : (env.rows sigma).frame.nrows = env.frame.nrows := by
    show (env.frame.rows sigma).nrows = _
    rw [frame_nrows_rows env.frame sigma hp.lt, hp.length]
  obtain ⟨f, xi, est, kind, el, hf, hcase, rfl⟩ := trainGroup_ok env table spec out h
  obtain ⟨hf', hflen⟩ := trainTerm_perm env hwf hn sigma hp table _ true false f (by simpa using hnf) hf
  unfold trainGroup
  simp only [hf', ok_bind]
  rcases hcase with ⟨hse, rfl, rfl, rfl, rfl⟩ | ⟨ts, t, hse, ht, rfl, rfl, rfl, rfl⟩
  · refine ⟨?_, by simp [khatriRao, interactionMatrix_length, hflen, onesCol]⟩
    simp only [hse, pure_bind, GroupOut.perm, TermOut.perm, hnr, khatriRao, selectRows_interactionMatrix,
      selectRows_onesCol _ sigma hp.lt, hp.length]
    rfl
  · obtain ⟨ht', htlen⟩ := trainTerm_perm env hwf hn sigma hp table ts false false t (hne ts hse) ht
    refine ⟨?_, by simp [khatriRao, interactionMatrix_length, hflen, htlen]⟩
    simp only [hse, ht', ok_bind, pure_bind, GroupOut.perm, TermOut.perm, khatriRao,
      selectRows_interactionMatrix]
    rfl

def permPart (sigma : List Nat) : Option TermOut → Option TermOut
  | none => none
  | some o => some (o.perm sigma)

theorem trainCommon_perm (table : List (String × Expr)) (specs : List (Option TermSpec))
    (parts : List (Option TermOut)) (hne : ∀ s, some s ∈ specs → s.comps ≠ [])
    (h : trainCommon env table specs = .ok parts) :
    trainCommon (env.rows sigma) table specs = .ok (parts.map (permPart sigma)) ∧
      commonMatrix env.frame.nrows (parts.map (permPart sigma)) =
        selectRows (commonMatrix env.frame.nrows parts) sigma := by
  refine hstack_mapM_perm _ _ (permPart sigma) (partMatrix env.frame.nrows) _ sigma hp.lt hp.length _ _ h ?_
  rintro (_ | s) hs p hp'
  · cases hp'
    exact ⟨rfl, List.length_replicate, (hp.length ▸ selectRows_onesCol _ sigma hp.lt).symm⟩
  · simp only [bind_ok, pure_ok] at hp'
    obtain ⟨o, ho, rfl⟩ := hp'
    obtain ⟨h1, h2⟩ := trainTerm_perm env hwf hn sigma hp table s false false o (hne s hs) ho
    exact ⟨by simp only [h1]; rfl, h2, rfl⟩

theorem trainGroups_perm (table : List (String × Expr)) (specs : List GroupSpec) (gs : List GroupOut)
    (hne : ∀ s ∈ specs, s.factor.comps ≠ [] ∧ ∀ ts, s.expr = some ts → ts.comps ≠ [])
    (h : trainGroups env table specs = .ok gs) :
    trainGroups (env.rows sigma) table specs = .ok (gs.map (·.perm sigma)) ∧
      groupMatrix env.frame.nrows (gs.map (·.perm sigma)) =
        selectRows (groupMatrix env.frame.nrows gs) sigma := by
  refine hstack_mapM_perm _ _ (·.perm sigma) (·.data) _ sigma hp.lt hp.length _ _ h ?_
  intro s hs g hg
  obtain ⟨h1, h2⟩ := trainGroup_perm env hwf hn sigma hp table s g (hne s hs).1 (hne s hs).2 hg
  exact ⟨h1, h2, rfl⟩

end

end FormulaeModel.Design
