import FormulaeModel.Proofs.RowsEval
import FormulaeModel.Proofs.PermSort
/-
*Training* on a row-permuted frame: evaluating an expression for the first time on
`env.rows sigma` gives the value with its rows permuted and the same remembered transform state.
No fragment guard: `C/T/S` with explicit levels and `binary` are included (a permutation keeps
the set of values, the minimum, the mean).
-/
namespace FormulaeModel.Design

def IsPerm (sigma : List Nat) (n : Nat) : Prop := sigma.Perm (List.range n)

theorem IsPerm.lt {sigma : List Nat} {n : Nat} (h : IsPerm sigma n) : ∀ i ∈ sigma, i < n := by
  intro i hi
  simpa using h.mem_iff.1 hi

theorem IsPerm.length {sigma : List Nat} {n : Nat} (h : IsPerm sigma n) : sigma.length = n := by
  simpa using h.length_eq

theorem pick_perm {α : Type} {sigma : List Nat} {n : Nat} (hp : IsPerm sigma n) (d : α) (xs : List α)
    (hx : xs.length = n) : (pick sigma d xs).Perm xs := by
  have h1 : (pick sigma d xs).Perm ((List.range n).map (fun i => xs.getD i d)) := List.Perm.map _ hp
  have h2 : (List.range xs.length).map (fun i => xs.getD i d) = xs :=
    List.ext_getElem (by simp) fun i h1 _ => by
      simp only [List.length_map, List.length_range] at h1
      simp [List.getD_eq_getElem?_getD, List.getElem?_eq_getElem h1]
  rwa [← hx, h2] at h1

theorem pick_map' {α β : Type} (g : α → β) (is : List Nat) (d : α) (d' : β) (xs : List α)
    (h : ∀ i ∈ is, i < xs.length) : pick is d' (xs.map g) = (pick is d xs).map g := by
  rw [← pick_map]
  exact pick_default is d' (g d) _ (by simpa using h)

theorem foldl_sum_perm (xs ys : List Entry) (hp : xs.Perm ys) (init : Entry) :
    xs.foldl (fun acc x => entryOp (fun a b => some (a + b)) acc x) init
      = ys.foldl (fun acc x => entryOp (fun a b => some (a + b)) acc x) init := by
  apply List.Perm.foldl_eq' hp
  intro x _ y _ z
  cases x <;> cases y <;> cases z <;> simp [entryOp]
  -- `(x + y) + z = (x + z) + y`
  all_goals grind

theorem mean_perm (xs ys : List Entry) (hp : xs.Perm ys) : mean xs = mean ys := by
  unfold mean
  have hl := hp.length_eq
  have he : xs.isEmpty = ys.isEmpty := by
    cases xs <;> cases ys <;> simp_all
  rw [he, hl, foldl_sum_perm xs ys hp]

def Val.len (n : Nat) : Val → Prop
  | .vec xs _ => xs.length = n
  | .lvec xs _ => xs.length = n
  | .box b => b.data.length = n
  | .offsetVar xs => xs.length = n
  | .prop ss ts _ => ss.length = n ∧ ts.length = n
  | _ => True

theorem Val.len_iff_sized {n : Nat} {v : Val} : v.len n ↔ v.sized n = true := by
  cases v <;> simp [Val.len, Val.sized]

def CallArgs.len (n : Nat) (a : CallArgs) : Prop :=
  (∀ v ∈ a.pos, v.len n) ∧ (∀ p ∈ a.kw, p.2.len n)

theorem CallArgs.len_iff_sized {n : Nat} {a : CallArgs} : a.len n ↔ a.sized n :=
  and_congr (forall₂_congr fun _ _ => Val.len_iff_sized) (forall₂_congr fun _ _ => Val.len_iff_sized)

theorem sameSet_perm {α : Type} [DecidableEq α] (ls : List α) {p q : List α} (h : p.Perm q) :
    sameSet ls p = sameSet ls q := by
  unfold sameSet
  rw [all_perm _ h]
  congr 1
  apply List.all_congr rfl
  intro x
  exact h.contains_eq

/-- the levels a `CategoricalBox` is given; they do not depend on the data -/
def boxLevels (l : Option (List Level)) (decl : Option (Bool × List String)) : Option (List Level) :=
  match l, decl with
  | Option.none, some (true, cats) => some (cats.map Level.s)
  | l, _ => l

def mkBoxCore (data : List (Option Level)) (contrast : Option Contrast) : Option (List Level) → M Box
  | some ls =>
    if data.any Option.isNone then .error (.unmodelled "missing value in categorical data")
    else if sameSet ls (dedupL (data.filterMap id)) then pure ⟨data, contrast, some ls⟩
    else .error (.valueError "levels and data differ")
  | Option.none => pure ⟨data, contrast, Option.none⟩

theorem mkBox_eq (data : List (Option Level)) (decl : Option (Bool × List String))
    (c : Option Contrast) (l : Option (List Level)) :
    mkBox data decl c l = mkBoxCore data c (boxLevels l decl) := by
  unfold mkBox boxLevels mkBoxCore
  rfl

theorem mkBox_perm {sigma : List Nat} {n : Nat} (hp : IsPerm sigma n) (data : List (Option Level))
    (hl : data.length = n) (decl : Option (Bool × List String)) (c : Option Contrast)
    (l : Option (List Level)) (b : Box) (h : mkBox data decl c l = .ok b) :
    b.data.length = n ∧
      mkBox (pick sigma none data) decl c l = .ok { b with data := pick sigma none b.data } := by
  rw [mkBox_eq] at h ⊢
  generalize boxLevels l decl = lv at h ⊢
  cases lv with
  | none =>
    simp only [mkBoxCore, pure_ok] at h ⊢
    subst h
    exact ⟨hl, rfl⟩
  | some ls =>
    simp only [mkBoxCore] at h ⊢
    rw [any_perm _ (pick_perm hp none data hl), sameSet_perm ls (dedupL_perm ((pick_perm hp none data hl).filterMap id))]
    split at h
    · simp at h
    · split at h
      · simp only [pure_ok] at h
        subst h
        refine ⟨hl, ?_⟩
        simp only [*, if_true, Bool.false_eq_true, if_false]
        rfl
      · simp at h

theorem successNum_perm (sigma : List Nat) {vals vals' : List Rat} (h : vals'.Perm vals) (s : Val) :
    successNum vals' (s.rows sigma) = successNum vals s := by
  cases s <;> simp only [successNum, Val.rows]
  rw [sortRat_perm h]

theorem successLvl_perm (sigma : List Nat) {vals vals' : List Level} (h : vals'.Perm vals) (s : Val) :
    successLvl vals' (s.rows sigma) = successLvl vals s := by
  cases s <;> simp only [successLvl, Val.rows, levelOfVal, sortLevels_perm h]

theorem binaryOn_perm {α : Type} [DecidableEq α] {sigma : List Nat} {n : Nat} (hp : IsPerm sigma n)
    (xs : List (Option α)) (hx : xs.length = n) {success success' : List α → M α} {v : Val}
    (hs : ∀ {vals' vals : List α}, vals'.Perm vals → success' vals' = success vals)
    (h : binaryOn xs success = .ok v) : binaryOn (pick sigma none xs) success' = .ok (v.rows sigma) := by
  have hperm := pick_perm hp none xs hx
  obtain ⟨s, hna, hsv, hc, rfl⟩ := binaryOn_ok.1 h
  refine binaryOn_ok.2 ⟨s, any_perm _ hperm ▸ hna, hs (hperm.filterMap id) ▸ hsv,
    (hperm.filterMap id).contains_eq ▸ hc, ?_⟩
  exact congrArg (Val.vec · true) (pick_map' _ sigma none none xs (hx ▸ hp.lt))

theorem binaryFn_perm {sigma : List Nat} {n : Nat} (hp : IsPerm sigma n) (x s v : Val) (hx : x.len n)
    (h : binaryFn x s = .ok v) : v.len n ∧ binaryFn (x.rows sigma) (s.rows sigma) = .ok (v.rows sigma) := by
  refine ⟨Val.len_iff_sized.2 (binaryFn_sized x s v n (Val.len_iff_sized.1 hx) h), ?_⟩
  rw [binaryFn_eq] at h ⊢
  cases x
  case vec xs b => exact binaryOn_perm hp xs hx (fun hv => successNum_perm sigma hv s) h
  case lvec xs d => exact binaryOn_perm hp xs hx (fun hv => successLvl_perm sigma hv s) h
  all_goals cases h

theorem finishCall_perm {sigma : List Nat} {n : Nat} (hp : IsPerm sigma n) (callee : String)
    (a : CallArgs) (v : Val) (own' : Option Rat) (hg : a.sized n)
    (h : finishCall callee a none = .ok (v, own')) :
    finishCall callee (a.rows sigma) none = .ok (v.rows sigma, own') := by
  have pos : ∀ {x}, a.pos = [x] → x.sized n = true ∧ (a.rows sigma).pos = [x.rows sigma] :=
    fun hp => ⟨hg.1 _ (by simp [hp]), by simp [CallArgs.rows, hp]⟩
  have get := fun i name => CallArgs.all_get (CallArgs.sized_iff_all.1 hg) rfl i name
  have data := get 0 "data"
  cases CallOk.of_finishCall h with
  | ident hq => exact (CallOk.ident (pos hq).2).finishCall
  | center hq ho =>
    -- the mean of the permuted column is the mean of the column
    rename_i xs i m
    obtain ⟨g, hq'⟩ := pos hq
    have hm : mean (pick sigma none xs) = some m := by
      rw [mean_perm _ _ (pick_perm hp none xs (by simpa [Val.sized] using g))]
      rcases ho with h | ⟨-, h⟩
      · cases h
      · exact h
    have := (CallOk.center (m := m) hq' (.inr ⟨rfl, hm⟩)).finishCall
    rwa [← pick_map_none _ rfl] at this
  | treatment =>
    have := (CallOk.treatment (a := a.rows sigma) (own := none)).finishCall
    rwa [CallArgs.get_rows, levelOfVal_rows] at this
  | sum =>
    have := (CallOk.sum (a := a.rows sigma) (own := none)).finishCall
    rwa [CallArgs.get_rows, levelOfVal_rows] at this
  | box hc hl hdl hb =>
    obtain ⟨-, hb'⟩ := mkBox_perm hp _ (dataLevels_length _ n data _ _ hdl) _ _ _ _ hb
    refine (CallOk.box ((boxContrast_rows callee a sigma).trans hc) ?_ ?_ hb').finishCall
    · rw [CallArgs.get_rows, levelsOfVal_rows]; exact hl
    · rw [CallArgs.get_rows]; exact dataLevels_rows _ sigma _ _ hdl
  | rebox hdat hc hl hb =>
    rename_i c l b₀ b
    rw [hdat] at data
    obtain ⟨-, hb'⟩ := mkBox_perm hp _ (by simpa [Val.sized] using data) _ _ _ _ hb
    refine (CallOk.rebox (b₀ := { b₀ with data := pick sigma none b₀.data }) ?_ ?_ ?_ hb').finishCall
    · rw [CallArgs.get_rows, hdat]; rfl
    · rw [CallArgs.get_rows, contrastOfVal_rows]; exact hc
    · rw [CallArgs.get_rows, levelsOfVal_rows]; exact hl
  | offsetVar hq => exact (CallOk.offsetVar (pos hq).2).finishCall
  | offsetConst hq => exact (CallOk.offsetConst (pos hq).2).finishCall
  | binary hc hv =>
    have hr := (binaryFn_perm hp _ _ _ (Val.len_iff_sized.2 (get 0 "x")) hv).2
    rw [← CallArgs.get_rows, ← CallArgs.get_rows] at hr
    exact (CallOk.binary hc hr).finishCall
  | prop hc hv =>
    have hr := proportionFn_rows _ _ _ n sigma (get 0 "successes") (get 1 "trials") hp.lt hv
    rw [← CallArgs.get_rows, ← CallArgs.get_rows] at hr
    exact (CallOk.prop hc hr).finishCall

section
variable (env : Env) (hwf : env.frame.wellFormed = true) (hn : env.namesScalar = true) (sigma : List Nat)
  (hp : IsPerm sigma env.frame.nrows)
include hwf hn hp

theorem evalArg_perm_both :
    (∀ e ts kw v t, evalArg env e ts = .ok (kw, v, t) → ts = none →
      evalArg (env.rows sigma) e none = .ok (kw, v.rows sigma, t)) ∧
    (∀ as ts i acc a sts, evalArgs env as ts i acc = .ok (a, sts) → ts = none →
      evalArgs (env.rows sigma) as none i (acc.rows sigma) = .ok (a.rows sigma, sts)) := by
  refine evalArg_induct env
    (grouping := fun _ _ _ _ _ _ _ ih hts => evalArg_grouping_ok.2 ⟨rfl, ih hts⟩)
    (name := fun _ s _ v he h _ => (evalArg_name_ok he).2 ⟨rfl, rfl, lookupName_rows env hn sigma s v h⟩)
    (literal := ?_)
    (unary := fun _ _ _ _ st _ _ ih hv hts =>
      evalArg_unary_ok.2 ⟨_, st, ih (TS.child_of_none hts _), unaryVal_rows sigma hv, rfl, rfl⟩)
    (binary := fun _ _ _ _ _ sa _ sb _ _ iha _ ihb hv hts =>
      evalArg_binary_ok.2 ⟨_, sa, _, sb, iha (TS.child_of_none hts _), ihb (TS.child_of_none hts _), binopVal_rows sigma hv, rfl, rfl⟩)
    (call := ?_)
    (brace := fun _ _ _ _ _ st _ ih hts => evalArg_brace_ok.2 ⟨st, ih (TS.child_of_none hts _), rfl, rfl⟩)
    (assign := fun n _ _ _ _ _ _ ih hts => evalArg_assign_ok.2 ⟨n, rfl, rfl, ih hts⟩)
    (nil := fun _ _ _ _ => evalArgs_nil_ok.2 ⟨rfl, rfl⟩)
    (last := fun _ _ _ acc k x st _ ih hts =>
      evalArgs_last_ok.2 ⟨k, _, st, ih (TS.child_of_none hts _), CallArgs.rows_push acc k x sigma, rfl⟩)
    (more := fun _ _ _ _ _ acc k x st _ sts _ ih _ ihr hts =>
      evalArgs_more_ok.2 ⟨k, x.rows sigma, st, sts, ih (TS.child_of_none hts _), CallArgs.rows_push acc k x sigma ▸ ihr hts, rfl⟩)
  · intro q ts v h _
    obtain ⟨-, -, hs, hi⟩ := evalArg_literal_ok h
    rw [Val.rows_scalar sigma v hs]
    exact hi _ _
  · rintro n lp as rp _ args sts v own h1 ih h3 rfl
    have gargs := evalArgs_sized env hwf (Env.namesSized_of_scalar env _ hn) as none 0 _ args sts
      (CallArgs.all_nil _) h1
    exact evalArg_call_ok.2 ⟨n, _, sts, own, rfl, ih rfl, finishCall_perm hp _ args v own gargs h3, rfl, rfl⟩

theorem evalArg_perm : ∀ (e : Expr) (kw : Option String) (v : Val) (t : TS),
    evalArg env e none = .ok (kw, v, t) →
      v.len env.frame.nrows ∧ evalArg (env.rows sigma) e none = .ok (kw, v.rows sigma, t) :=
  fun e kw v t h =>
    ⟨Val.len_iff_sized.2 (evalArg_sized env hwf (Env.namesSized_of_scalar env _ hn) e none kw v t h),
     (evalArg_perm_both env hwf hn sigma hp).1 e none kw v t h rfl⟩

theorem evalArgs_perm : ∀ (as : Args) (i : Nat) (acc a : CallArgs) (sts : List TS),
    acc.len env.frame.nrows → evalArgs env as none i acc = .ok (a, sts) →
      a.len env.frame.nrows ∧ evalArgs (env.rows sigma) as none i (acc.rows sigma) = .ok (a.rows sigma, sts) :=
  fun as i acc a sts hacc h =>
    ⟨CallArgs.len_iff_sized.2 (evalArgs_sized env hwf (Env.namesSized_of_scalar env _ hn) as none i acc
      a sts (CallArgs.len_iff_sized.1 hacc) h),
     (evalArg_perm_both env hwf hn sigma hp).2 as none i acc a sts h rfl⟩
end

end FormulaeModel.Design
