import FormulaeModel.Spec.C06
import FormulaeModel.Proofs.RowsEval
import FormulaeModel.Proofs.Indicator
import FormulaeModel.Proofs.CompForm
/-
One component: `Coded` (what `evalCategoric` and `evalBox` return) and `trainComp_ok`, from which the shape,
permutation and group-block proofs start too.  For C06: on selected rows of its training frame a trained
component gives the selected rows of its training value, since every selected value was seen in training.
A grouping factor has no all-zero row, which is what `newGroup` tests.
-/
namespace FormulaeModel.Design
open FormulaeModel.Spec.C06

theorem selectRows_eq_pick (m : Matrix) (is : List Nat) : selectRows m is = pick is [] m := rfl

theorem codeRows_length (cm : ContrastMatrix) (levels : List Level) (xs : List (Option Level)) (m : Matrix)
    (h : codeRows cm levels xs = .ok m) : m.length = xs.length :=
  (mapM_ok_get _ xs m h).1

theorem codeRows_pick (cm : ContrastMatrix) (levels : List Level) (xs : List (Option Level)) (m : Matrix)
    (is : List Nat) (h : codeRows cm levels xs = .ok m) (his : ∀ i ∈ is, i < xs.length) :
    codeRows cm levels (pick is none xs) = .ok (selectRows m is) :=
  mapM_pick _ xs m is none [] h his

theorem codeRows_seen (cm : ContrastMatrix) (levels : List Level) (xs : List (Option Level)) (m : Matrix)
    (h : codeRows cm levels xs = .ok m) : ∀ x ∈ xs, ∃ l, x = some l ∧ levels.contains l = true := by
  intro x hx
  obtain ⟨i, hi, rfl⟩ := List.mem_iff_getElem.1 hx
  obtain ⟨hl, hall⟩ := mapM_ok_get _ xs m h
  have := hall i hi (by omega)
  cases hxi : xs[i] with
  | none => rw [hxi] at this; simp at this
  | some l =>
    rw [hxi] at this
    refine ⟨l, rfl, ?_⟩
    simp only at this
    split at this
    · rename_i k hk
      obtain ⟨hk', hk''⟩ := indexOf?_some l levels k hk
      simp only [List.contains_iff_mem]
      rw [← hk'']
      exact List.getElem_mem _
    · simp at this

theorem newCategoric_pick (st : CompState) (cm : ContrastMatrix) (mode : UnseenMode)
    (xs : List (Option Level)) (m : Matrix) (is : List Nat) (hcm : st.contrast = some cm)
    (h : codeRows cm st.levels xs = .ok m) (his : ∀ i ∈ is, i < xs.length) :
    newCategoric st mode (pick is none xs) = .ok (selectRows m is, false) := by
  unfold newCategoric
  simp only [hcm]
  rw [if_pos]
  · simp only [bind_ok, pure_ok]
    exact ⟨_, codeRows_pick cm st.levels xs m is h his, rfl⟩
  · simp only [Bool.not_eq_true', List.any_eq_false]
    intro x hx
    obtain ⟨l, rfl, hl⟩ := codeRows_seen cm st.levels xs m h x (mem_pick is none xs his x hx)
    simp only [isUnseen, hl]
    decide

theorem numericLevels_pick (xs : List Entry) (ls : List (Option Level)) (is : List Nat)
    (h : numericLevels xs = .ok ls) (his : ∀ i ∈ is, i < xs.length) :
    numericLevels (pick is none xs) = .ok (pick is none ls) :=
  mapM_pick _ xs ls is none none h his

theorem numericLevels_length (xs : List Entry) (ls : List (Option Level))
    (h : numericLevels xs = .ok ls) : ls.length = xs.length :=
  (mapM_ok_get _ xs ls h).1

/-- `m` is the data `xs` coded with `cm`, and `cm` is some coding of `levels` -/
structure Coded (full : Bool) (xs : List (Option Level)) (levels : List Level) (cm : ContrastMatrix)
    (m : Matrix) : Prop where
  code : ∃ c : Contrast, c.code full levels = .ok cm
  rows : codeRows cm levels xs = .ok m

theorem codeWith_ok (declared : Option (List Level)) (c : Contrast) (full : Bool)
    (xs : List (Option Level)) (levels : List Level) (cm : ContrastMatrix) (m : Matrix) :
    codeWith declared c full xs = .ok (levels, cm, m) ↔
      levelsFor declared xs = .ok levels ∧ c.code full levels = .ok cm ∧
        codeRows cm levels xs = .ok m := by
  simp only [codeWith, bind_ok, pure_ok, Prod.mk.injEq]
  constructor
  · rintro ⟨ls, hls, cm', hcm, m', hm, rfl, rfl, rfl⟩
    exact ⟨hls, hcm, hm⟩
  · rintro ⟨hls, hcm, hm⟩
    exact ⟨_, hls, _, hcm, _, hm, rfl, rfl, rfl⟩

theorem codeWith_coded (declared : Option (List Level)) (c : Contrast) (full : Bool)
    (xs : List (Option Level)) (levels : List Level) (cm : ContrastMatrix) (m : Matrix)
    (h : codeWith declared c full xs = .ok (levels, cm, m)) : Coded full xs levels cm m :=
  have h := (codeWith_ok _ _ _ _ _ _ _).1 h
  ⟨⟨c, h.2.1⟩, h.2.2⟩

theorem evalCategoric_codeWith (name : String) (xs : List (Option Level))
    (d : Option (Bool × List String)) (full : Bool) (r : List Level × ContrastMatrix × Matrix)
    (h : evalCategoric name xs d full = .ok r) :
    xs.any Option.isNone = false ∧ codeWith (declaredLevels d) (.treatment none) full xs = .ok r := by
  rw [evalCategoric_eq] at h
  split at h
  · cases h
  · exact ⟨Bool.eq_false_iff.2 ‹_›, h⟩

theorem evalCategoric_coded {name : String} {xs : List (Option Level)} {d : Option (Bool × List String)}
    {full : Bool} {levels : List Level} {cm : ContrastMatrix} {m : Matrix}
    (h : evalCategoric name xs d full = .ok (levels, cm, m)) : Coded full xs levels cm m :=
  codeWith_coded _ _ _ _ _ _ _ (evalCategoric_codeWith _ _ _ _ _ h).2

theorem evalBox_coded {b : Box} {full : Bool} {levels : List Level} {cm : ContrastMatrix} {m : Matrix}
    (h : evalBox b full = .ok (levels, cm, m)) : Coded full b.data levels cm m :=
  codeWith_coded _ _ _ _ _ _ _ (evalBox_eq b full ▸ h)

theorem colOfEntries_length (xs : List Entry) : (colOfEntries xs).length = xs.length :=
  List.length_map _

theorem selectRows_colOfEntries (xs : List Entry) (is : List Nat) (h : ∀ i ∈ is, i < xs.length) :
    selectRows (colOfEntries xs) is = colOfEntries (pick is none xs) := by
  simp only [selectRows_eq_pick, colOfEntries]
  rw [pick_default is [] [none] _ (by simpa using h)]
  exact pick_map (fun x => [x]) is none xs

theorem trainComp_ok (env : Env) (name : String) (e : Expr) (forced isResponse full : Bool)
    (out : CompOut) :
    trainComp env name e forced isResponse full = .ok out ↔
      (isCallLike e = true ∧ ∃ v ts, evalArg env e none = .ok (none, v, ts) ∧
        compOfVal env.frame.nrows name e forced isResponse full v ts = .ok out) ∨
      (isCallLike e = false ∧ ∃ c, env.frame.col? (varColRef name e).1 = some c ∧
        compOfCol name e forced isResponse full (varColRef name e).2 c = .ok out) := by
  cases hc : isCallLike e with
  | true =>
    simp only [trainComp_call _ _ _ _ _ _ hc, bind_ok, posOnly_ok, Prod.exists, true_and, reduceCtorEq,
      false_and, or_false]
  | false =>
    rw [trainComp_var _ _ _ _ _ _ hc]
    cases env.frame.col? (varColRef name e).1 <;>
      simp only [reduceCtorEq, false_and, exists_false, and_false, or_false, true_and, false_or,
        Option.some.injEq, exists_eq_left']

theorem catLeaf_ok {st : CompState} {name : String} {r : M (List Level × ContrastMatrix × Matrix)}
    {out : CompOut} :
    catLeaf st name r = .ok out ↔ ∃ levels cm m, r = .ok (levels, cm, m) ∧
      ⟨{ st with kind := .categoric, levels, contrast := some cm }, m, some (categoricLabels name cm)⟩ = out := by
  simp only [catLeaf, bind_ok, pure_ok, Prod.exists]

theorem offsetLeaf_ok {isResponse forced : Bool} {o out : CompOut} :
    offsetLeaf isResponse forced o = .ok out ↔ isResponse = false ∧ forced = false ∧ o = out := by
  cases isResponse <;> cases forced <;> simp [offsetLeaf, pure, Except.pure]

theorem compOfVal_rows {n : Nat} {is : List Nat} (his : ∀ i ∈ is, i < n) (env' : Env)
    (hn' : env'.frame.nrows = is.length) (name : String) (e : Expr) (hc : isCallLike e = true)
    (forced full : Bool) (mode : UnseenMode) (v : Val) (ts : TS) (gv : v.good n)
    (hE : posOnly (evalArg env' e (some ts)) = .ok (v.rows is, ts)) (out : CompOut)
    (h : compOfVal n name e forced false full v ts = .ok out) :
    newComp out.st env' mode = .ok (selectRows out.value is, false) ∧ out.value.length = n := by
  cases v <;> simp only [compOfVal, valLeaf, Bool.not_false, if_true, reduceCtorEq] at h
  all_goals simp only [Val.good] at gv
  all_goals simp only [Val.rows] at hE
  case vec xs isInt =>
    subst gv
    split at h
    · rw [bind_ok] at h
      obtain ⟨ls, hls, h⟩ := h
      obtain ⟨levels, cm, m, hcat, rfl⟩ := catLeaf_ok.1 h
      have hcode := (evalCategoric_coded hcat).rows
      have hlen := numericLevels_length _ _ hls
      refine ⟨?_, (codeRows_length _ _ _ _ hcode).trans hlen⟩
      simp only [newComp_call, hc, hE, ok_bind, newOfVal, numericLevels_pick _ _ is hls his]
      exact newCategoric_pick _ cm mode ls m is rfl hcode (hlen ▸ his)
    · cases (pure_ok _ _).1 h
      refine ⟨?_, colOfEntries_length _⟩
      simp only [newComp_call, hc, hE, ok_bind, selectRows_colOfEntries _ is his]
      rfl
  case lvec xs d =>
    subst gv
    obtain ⟨levels, cm, m, hcat, rfl⟩ := catLeaf_ok.1 h
    have hcode := (evalCategoric_coded hcat).rows
    refine ⟨?_, codeRows_length _ _ _ _ hcode⟩
    simp only [newComp_call, hc, hE, ok_bind, newOfVal]
    exact newCategoric_pick _ cm mode _ m is rfl hcode his
  case box b =>
    obtain ⟨rfl, _⟩ := gv
    obtain ⟨levels, cm, m, hcat, rfl⟩ := catLeaf_ok.1 h
    have hcode := (evalBox_coded hcat).rows
    refine ⟨?_, codeRows_length _ _ _ _ hcode⟩
    simp only [newComp_call, hc, hE, ok_bind, newOfVal]
    exact newCategoric_pick _ cm mode _ m is rfl hcode his
  case offsetVar xs =>
    subst gv
    obtain ⟨_, _, rfl⟩ := offsetLeaf_ok.1 h
    refine ⟨?_, colOfEntries_length _⟩
    simp only [newComp_call, hc, hE, ok_bind, selectRows_colOfEntries _ is his]
    rfl
  case offsetConst q =>
    obtain ⟨_, _, rfl⟩ := offsetLeaf_ok.1 h
    refine ⟨?_, List.length_replicate⟩
    simp only [newComp_call, hc, hn', selectRows_eq_pick, pick_replicate is _ _ _ his]
    rfl

theorem compOfCol_rows {n : Nat} {is : List Nat} (his : ∀ i ∈ is, i < n) (name : String) (e : Expr)
    (forced full : Bool) (mode : UnseenMode) (reference : Option String) (c : Column)
    (hl : c.cells.length = n) (out : CompOut)
    (h : compOfCol name e forced false full reference c = .ok out) :
    out.st.name = name ∧ out.st.expr = e ∧
      newOfCol out.st mode (colRows c is) = .ok (selectRows out.value is, false) ∧
      out.value.length = n := by
  have gv := colVal_good c
  subst hl
  -- the leaves are opened again here: `newOfCol` reads the new value differently from `newComp_call`
  simp only [compOfCol, valLeaf, catLeaf] at h
  simp only [newOfCol, colVal_rows]
  split at h
  · rename_i xs isInt hv
    rw [hv] at gv ⊢
    simp only [Val.good] at gv
    simp only [Val.rows]
    rw [← gv] at his ⊢
    split at h
    · simp only [bind_ok, pure_ok] at h
      obtain ⟨ls, hls, ⟨levels, cm, m⟩, hcat, rfl⟩ := h
      have hcode := (evalCategoric_coded hcat).rows
      have hlen := numericLevels_length _ _ hls
      refine ⟨rfl, rfl, ?_, (codeRows_length _ _ _ _ hcode).trans hlen⟩
      simp only [numericLevels_pick _ _ is hls his, ok_bind]
      exact newCategoric_pick _ cm mode ls m is rfl hcode (hlen ▸ his)
    · cases (pure_ok _ _).1 h
      refine ⟨rfl, rfl, ?_, colOfEntries_length _⟩
      simp only [selectRows_colOfEntries _ is his]
      rfl
  · rename_i xs d hv
    rw [hv] at gv ⊢
    simp only [Val.good] at gv
    simp only [Val.rows]
    rw [← gv] at his ⊢
    simp only [bind_ok, pure_ok] at h
    obtain ⟨⟨levels, cm, m⟩, hcat, rfl⟩ := h
    have hcode := (evalCategoric_coded hcat).rows
    refine ⟨rfl, rfl, ?_, codeRows_length _ _ _ _ hcode⟩
    exact newCategoric_pick _ cm mode _ m is rfl hcode his
  · cases h

theorem trainComp_rows (env : Env) (hwf : env.frame.wellFormed = true) (hn : env.namesScalar = true)
    (is : List Nat) (his : ∀ i ∈ is, i < env.frame.nrows) (name : String) (e : Expr)
    (forced full : Bool) (mode : UnseenMode) (out : CompOut)
    (hok : RowwiseOk e = true) (hd : D13Free env e = true)
    (h : trainComp env name e forced false full = .ok out) :
    newComp out.st (env.rows is) mode = .ok (selectRows out.value is, false) ∧
      out.value.length = env.frame.nrows := by
  rcases (trainComp_ok _ _ _ _ _ _ _).1 h with ⟨hc, v, ts, h1, h⟩ | ⟨hc, c, hcol, h⟩
  · obtain ⟨gv, hE⟩ := evalArg_rows env hwf hn is his _ hok hd _ _ _ h1
    rw [← posOnly_ok] at hE
    exact compOfVal_rows his _ (frame_nrows_rows env.frame is his) name e hc forced full mode v ts gv hE
      out h
  · obtain ⟨hname, hexpr, hnew, hlen⟩ := compOfCol_rows his name e forced full mode _ c
      (frame_col?_length env.frame hwf _ c hcol) out h
    refine ⟨?_, hlen⟩
    rw [newComp_var _ _ _ (hexpr ▸ hc), hname, hexpr]
    simp only [Env.rows, frame_col?_rows, hcol, Option.map_some]
    exact hnew

/-- the test `GroupSpecificTerm.eval_new_data` applies to the rows of the indicator matrix
(`newGroup` has it as a local `let`) -/
def isZeroRow (r : List Entry) : Bool := r.all (fun x => x == some 0)

def NoZeroRow (m : Matrix) : Prop := ∀ r ∈ m, isZeroRow r = false

theorem isZeroRow_false_of_mem (r : List Entry) (x : Entry) (hx : x ∈ r) (h0 : x ≠ some 0) :
    isZeroRow r = false := by
  simp only [isZeroRow, List.all_eq_false]
  exact ⟨x, hx, by simpa using h0⟩

theorem one_ne_zero_entry : (some (((1 : Int) : Rat)) : Entry) ≠ some 0 := by decide

theorem unitRow_nonzero (n i : Nat) (hi : i < n) : isZeroRow (rowOfInts (unitRow n i)) = false := by
  apply isZeroRow_false_of_mem _ (some (((1 : Int) : Rat))) _ one_ne_zero_entry
  simp only [rowOfInts, unitRow, List.mem_map, List.mem_range]
  exact ⟨1, ⟨i, hi, by simp⟩, rfl⟩

/-- full codings (`code_with_intercept`) give every level a row that is not all zero -/
theorem code_full_nonzero (c : Contrast) (levels : List Level) (cm : ContrastMatrix)
    (h : c.code true levels = .ok cm) (i : Nat) (hi : i < levels.length) :
    isZeroRow (rowOfInts (cm.rows.getD i [])) = false := by
  cases c with
  | treatment r =>
    simp only [Contrast.code, pure_ok] at h
    subst h
    simp only [treatmentFull, List.getD_eq_getElem?_getD, List.getElem?_map, List.getElem?_range hi,
      Option.map_some, Option.getD_some]
    exact unitRow_nonzero _ _ hi
  | sum o =>
    simp only [Contrast.code, sumFull, bind_ok, pure_ok] at h
    obtain ⟨c', hc', rfl⟩ := h
    simp only [sumReduced, bind_ok, pure_ok] at hc'
    obtain ⟨o', _, rfl⟩ := hc'
    simp only [List.getD_eq_getElem?_getD, List.getElem?_map, List.getElem?_range hi,
      Option.map_some, Option.getD_some]
    apply isZeroRow_false_of_mem _ (some (((1 : Int) : Rat))) _ one_ne_zero_entry
    simp [rowOfInts]

theorem codeRows_nonzero (cm : ContrastMatrix) (levels : List Level) (xs : List (Option Level)) (m : Matrix)
    (hfull : ∀ i, i < levels.length → isZeroRow (rowOfInts (cm.rows.getD i [])) = false)
    (h : codeRows cm levels xs = .ok m) : NoZeroRow m := by
  intro r hr
  obtain ⟨k, hk, rfl⟩ := List.mem_iff_getElem.1 hr
  obtain ⟨hl, hall⟩ := mapM_ok_get _ xs m h
  have := hall k (by omega) hk
  cases hxi : xs[k]'(by omega) with
  | none => rw [hxi] at this; simp at this
  | some l =>
    rw [hxi] at this
    simp only at this
    split at this
    · rename_i i hi
      obtain ⟨hi', _⟩ := indexOf?_some l levels i hi
      simp only [pure_ok] at this
      rw [← this]
      exact hfull i hi'
    · simp at this

theorem Coded.nonzero {xs : List (Option Level)} {levels : List Level} {cm : ContrastMatrix} {m : Matrix}
    (h : Coded true xs levels cm m) : NoZeroRow m := by
  obtain ⟨⟨c, hc⟩, hm⟩ := h
  exact codeRows_nonzero _ _ _ _ (code_full_nonzero _ _ _ hc) hm


theorem valLeaf_nonzero {st : CompState} (hf : st.forced = true) {name : String} {v : Val} {out : CompOut}
    (h : valLeaf st name true v = .ok out) : NoZeroRow out.value := by
  cases v <;> simp only [valLeaf, hf, if_true, reduceCtorEq] at h
  case vec =>
    rw [bind_ok] at h
    obtain ⟨ls, _, h⟩ := h
    obtain ⟨levels, cm, m, hcat, rfl⟩ := catLeaf_ok.1 h
    exact (evalCategoric_coded hcat).nonzero
  case lvec =>
    obtain ⟨levels, cm, m, hcat, rfl⟩ := catLeaf_ok.1 h
    exact (evalCategoric_coded hcat).nonzero
  case box =>
    obtain ⟨levels, cm, m, hcat, rfl⟩ := catLeaf_ok.1 h
    exact (evalBox_coded hcat).nonzero

theorem compOfVal_nonzero {n : Nat} {name : String} {e : Expr} {v : Val} {ts : TS} {out : CompOut}
    (h : compOfVal n name e true false true v ts = .ok out) : NoZeroRow out.value := by
  cases v <;> simp only [compOfVal, offsetLeaf, Bool.false_eq_true, if_false, Bool.not_false, if_true,
    reduceCtorEq] at h
  all_goals exact valLeaf_nonzero rfl h

theorem compOfCol_nonzero {name : String} {e : Expr} {reference : Option String} {c : Column}
    {out : CompOut} (h : compOfCol name e true false true reference c = .ok out) :
    NoZeroRow out.value := by
  simp only [compOfCol] at h
  split at h
  · exact valLeaf_nonzero rfl h
  · exact valLeaf_nonzero rfl h
  · cases h

/-- a grouping factor component (kind forced to categoric, coded full) has no all-zero row -/
theorem trainComp_nonzero (env : Env) (name : String) (e : Expr) (out : CompOut)
    (h : trainComp env name e true false true = .ok out) : NoZeroRow out.value := by
  rcases (trainComp_ok _ _ _ _ _ _ _).1 h with ⟨_, v, ts, _, h⟩ | ⟨_, c, _, h⟩
  · exact compOfVal_nonzero h
  · exact compOfCol_nonzero h

end FormulaeModel.Design
