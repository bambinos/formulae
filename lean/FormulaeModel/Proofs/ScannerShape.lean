import FormulaeModel.Spec.C02
import FormulaeModel.Proofs.DocTable
import FormulaeModel.Proofs.ParserRoundtrip
import FormulaeModel.Proofs.ScannerLemmas
/-
For `C02_scanner_shape_partial`: a derivation of the documented grammar whose yield starts with the
scanner's `1 +` has the literal `1` at the bottom of its left spine, directly under a `+`, and every
operator above it on the spine binds at most as tightly as `+`.
-/
namespace FormulaeModel.Proofs.ScannerShape
open FormulaeModel.Parser FormulaeModel.Spec.C01 FormulaeModel.Spec.C02
open FormulaeModel.Scanner FormulaeModel.Lazy

abbrev T : Table := documentedTable

def isOne : Expr → Bool
  | .literal t => t == one
  | _ => false

/-- the left spine of `e` ends in `1 + …` -/
def spineOne : Expr → Bool
  | .binary l op _ => (isOne l && op == plus) || spineOne l
  | _ => false

theorem flat_ne_nil (e : Expr) : e.flat ≠ [] := by
  cases e <;> simp [Expr.flat]

/-- The induction behind `spine`.  It speaks of both ends of the left spine: at the bottom the
yield is the single token `1`; above it the next token is the operator of the parent. -/
theorem head_one : (e : Expr) → stratBin T e = true → (rest : List Token) → e.flat = one :: rest →
    match rest with
    | [] => isOne e = true
    | t :: _ => t = plus → spineOne e = true := by
  intro e hs rest hf
  cases e with
  | literal t =>
    simp only [Expr.flat, List.cons.injEq] at hf
    obtain ⟨rfl, rfl⟩ := hf
    simp [isOne]
  | binary l op r =>
    obtain ⟨_, _, hl, _⟩ := stratBin_binary T hs
    simp only [Expr.flat] at hf
    match hlf : l.flat with
    | [] => exact absurd hlf (flat_ne_nil l)
    | t :: tl =>
      rw [hlf] at hf
      simp only [List.cons_append, List.cons.injEq] at hf
      obtain ⟨rfl, rfl⟩ := hf
      have ih := head_one l hl tl hlf
      cases tl with
      | nil => intro hop; simp [spineOne, show isOne l = true from ih, hop]
      | cons u tl => intro hu; simp [spineOne, show spineOne l = true from ih hu]
  | call c lp as rp =>
    simp only [stratBin, Bool.and_eq_true] at hs
    obtain ⟨⟨⟨⟨hpc, hc⟩, hlp⟩, _⟩, _⟩ := hs
    simp only [Expr.flat] at hf
    match hcf : c.flat with
    | [] => exact absurd hcf (flat_ne_nil c)
    | t :: tl =>
      rw [hcf] at hf
      simp only [List.cons_append, List.cons.injEq] at hf
      obtain ⟨rfl, rfl⟩ := hf
      have ih := head_one c hc tl hcf
      cases tl with
      | nil => intro hop; simp [hop, plus] at hlp
      | cons u tl =>
        intro hu
        have : spineOne c = true := ih hu
        cases c with
        | binary => simp [isPrimary, isCall] at hpc
        | _ => simp [spineOne] at this
  | assign => simp [stratBin] at hs
  -- the other trees start with a token that is not a number
  | _ =>
    simp only [Expr.flat, List.cons_append, List.cons.injEq] at hf
    obtain ⟨rfl, _⟩ := hf
    simp [stratBin, one, documentedTable] at hs

theorem spine (e : Expr) (hs : stratBin T e = true) (rest : List Token)
    (hf : e.flat = one :: plus :: rest) : spineOne e = true :=
  head_one e hs _ hf rfl

theorem spine_lvl : (e : Expr) → stratBin T e = true → spineOne e = true → lvl T e ≤ 2 := by
  intro e hs hsp
  cases e with
  | binary l op r =>
    obtain ⟨i, hi, hsl, _, h1, _⟩ := stratBin_binary T hs
    simp only [spineOne, Bool.or_eq_true, Bool.and_eq_true] at hsp
    rcases hsp with ⟨_, hop⟩ | hsp
    · have : op = plus := by simpa using hop
      subst this
      simp [lvl, opLevel_doc, docLevelOf, plus]
    · have := spine_lvl l hsl hsp
      simp only [lvl, hi, Option.getD_some]
      omega
  | _ => simp [spineOne] at hsp

theorem eq_of_isOne (l : Expr) (h : isOne l = true) : l = .literal one := by
  cases l with
  | literal t => rw [show t = one by simpa [isOne] using h]
  | _ => simp [isOne] at h

theorem root_lvl2 {e : Expr} (hs : stratBin T e = true) (h1 : 2 ≤ lvl T e) (h2 : lvl T e ≤ 2) :
    ∀ l op r, e = .binary l op r → docLevelOf op.kind = some 2 := by
  rintro l op r rfl
  obtain ⟨j, hj, _⟩ := stratBin_binary T hs
  simp only [lvl, hj, Option.getD_some] at h1 h2
  rw [← opLevel_doc, hj, show j = 2 by omega]

theorem chainHead_one : (e : Expr) → stratBin T e = true → spineOne e = true →
    (∀ l op r, e = .binary l op r → docLevelOf op.kind = some 2) →
    isLit (chainHead e) "1" = true := by
  intro e hs hsp hl
  cases e with
  | binary l op r =>
    have hi : docLevelOf op.kind = some 2 := hl l op r rfl
    simp only [stratBin, opLevel_doc, hi, Bool.and_eq_true, decide_eq_true_eq] at hs
    obtain ⟨⟨⟨hsl, _⟩, h1⟩, _⟩ := hs
    have hk := (kind_of_docLevel op.kind).2.2 hi
    simp only [chainHead, hk, if_true]
    simp only [spineOne, Bool.or_eq_true, Bool.and_eq_true] at hsp
    rcases hsp with ⟨hone, _⟩ | hsp
    · rw [eq_of_isOne l hone]
      rfl
    · exact chainHead_one l hsl hsp (root_lvl2 hsl h1 (spine_lvl l hsl hsp))
  | _ => simp [spineOne] at hsp

theorem not_lang_of_lvl1 (l r : Expr) (op : Token) (h : docLevelOf op.kind = some 1) :
    Lang (.binary l op r) = false := by
  obtain ⟨k, lx⟩ := op
  have := (kind_of_docLevel k).2.1 h
  simp only [List.mem_cons, List.not_mem_nil, or_false] at this
  -- `den` gives up at the root (`denT` has no case for a comparison), whatever `l` and `r` are
  rcases this with rfl | rfl | rfl | rfl | rfl | rfl <;> rfl

theorem shape_of_yield : (e : Expr) → stratBin T e = true → (rest : List Token) →
    e.flat = one :: plus :: rest → Lang e = true →
    (isLit (chainHead e) "1" || barePipe e) = true := by
  intro e hs rest hf hl
  have hsp := spine _ hs rest hf
  cases e with
  | binary l op r =>
    have hlv := spine_lvl _ hs hsp
    obtain ⟨i, hi, _⟩ := stratBin_binary T hs
    simp only [lvl, hi, Option.getD_some] at hlv
    rw [opLevel_doc] at hi
    have : i = 0 ∨ i = 1 ∨ i = 2 := by omega
    rcases this with rfl | rfl | rfl
    · have := (kind_of_docLevel op.kind).1 hi
      simp [barePipe, this]
    · rw [not_lang_of_lvl1 l r op hi] at hl; cases hl
    · have := chainHead_one (.binary l op r) hs hsp (by
        intro l' op' r' he
        injection he with _ h2 _
        subst h2
        exact hi)
      simp [this]
  | _ => simp [spineOne] at hsp

def tildeFree (ts : List Token) : Bool := ts.all (fun t => !isTilde t)

theorem tildeFree_iff {ts : List Token} : tildeFree ts = true ↔ ∀ a ∈ ts, isTilde a = false := by
  simp [tildeFree]

theorem scan_addIntercept (code : List Char) (ts : List Token)
    (h : scan code true = .ok ts) :
    ∃ ts0, (ts0.filter isTilde).length ≤ 1 ∧ ts = addIntercept ts0 := by
  obtain ⟨ts0, _, _, hc, hts⟩ := scan_ok h
  exact ⟨ts0, hc, hts⟩

theorem addIntercept_cases (ts0 : List Token) (hc : (ts0.filter isTilde).length ≤ 1) :
    (tildeFree ts0 = true ∧ addIntercept ts0 = one :: plus :: ts0) ∨
    (∃ pre tl rest, isTilde tl = true ∧ tildeFree pre = true ∧ tildeFree rest = true ∧
      addIntercept ts0 = pre ++ tl :: one :: plus :: rest) := by
  rcases addIntercept_eq ts0 with ⟨hany, h⟩ | ⟨pre, tl, post, rfl, hpre, htl, h⟩
  · exact .inl ⟨tildeFree_iff.2 (by simpa using hany), h⟩
  · exact .inr ⟨pre, tl, post, htl, tildeFree_iff.2 hpre,
      tildeFree_iff.2 (filter_tilde_count pre tl post htl hc), h⟩

theorem split_unique : (a c b d : List Token) → (x y : Token) → isTilde x = true →
    tildeFree c = true → tildeFree d = true → a ++ x :: b = c ++ y :: d → a = c ∧ b = d
  | [], [], b, d, x, y, _, _, _, h => by
    simp only [List.nil_append, List.cons.injEq] at h; exact ⟨rfl, h.2⟩
  | [], c0 :: cs, b, d, x, y, hx, hc, _, h => by
    simp only [List.nil_append, List.cons_append, List.cons.injEq] at h
    simp only [tildeFree, List.all_cons, Bool.and_eq_true, Bool.not_eq_true'] at hc
    rw [← h.1, hx] at hc; cases hc.1
  | a0 :: as, [], b, d, x, y, hx, _, hd, h => by
    simp only [List.nil_append, List.cons_append, List.cons.injEq] at h
    have hmem : x ∈ d := by rw [← h.2]; simp
    simp only [tildeFree, List.all_eq_true, Bool.not_eq_true'] at hd
    rw [hd x hmem] at hx; cases hx
  | a0 :: as, c0 :: cs, b, d, x, y, hx, hc, hd, h => by
    simp only [List.cons_append, List.cons.injEq] at h
    simp only [tildeFree, List.all_cons, Bool.and_eq_true] at hc
    obtain ⟨h1, h2⟩ := split_unique as cs b d x y hx hc.2 hd h.2
    exact ⟨by rw [h.1, h1], h2⟩

theorem var_not_one (n : Expr) (hv : isVariable n = true) (hn : stratBin T n = true)
    (x y : List Token) (hf : n.flat ++ x = one :: y) : False := by
  cases n with
  | «variable» | subset =>
    simp only [Expr.flat, List.cons_append, List.nil_append, List.cons.injEq] at hf
    rw [hf.1] at hn
    simp [stratBin, one] at hn
  | _ => simp [isVariable] at hv

theorem shape_noTilde : (e : Expr) → (ts0 : List Token) → stratTop T e = true →
    e.flat = one :: plus :: ts0 → tildeFree ts0 = true → Lang e = true →
    (implicitOne e || barePipe e) = true := by
  intro e ts0 hst hf hnt hl
  cases e with
  | binary l op r =>
    cases hk : op.kind == .TILDE
    · simp only [stratTop, hk] at hst
      have := shape_of_yield _ hst ts0 hf hl
      simpa [implicitOne, rhsOf, hk] using this
    · -- a `~` node has its operator token in the yield
      have hmem : op ∈ one :: plus :: ts0 := by rw [← hf]; simp [Expr.flat]
      have hop : isTilde op = true := hk
      simp only [List.mem_cons] at hmem
      rcases hmem with h | h | h
      · rw [h, one_not_tilde] at hop; cases hop
      · rw [h, plus_not_tilde] at hop; cases hop
      · simp only [tildeFree, List.all_eq_true, Bool.not_eq_true'] at hnt
        rw [hnt op h] at hop; cases hop
  | assign n eq v =>
    simp only [stratTop, Bool.and_eq_true] at hst
    obtain ⟨⟨⟨⟨hv, hn⟩, _⟩, _⟩, _⟩ := hst
    simp only [Expr.flat] at hf
    exact (var_not_one n hv hn _ _ hf).elim
  | «variable» | quoted | literal => simp [Expr.flat] at hf
  | _ =>
    simp only [stratTop] at hst
    have := shape_of_yield _ hst ts0 hf hl
    simpa [implicitOne, rhsOf] using this

def rootTilde : Expr → Bool
  | .binary _ op _ => op.kind == .TILDE
  | _ => false

theorem shape_tilde_root (e : Expr) (hk : rootTilde e = true) (hst : stratTop T e = true)
    (pre rest : List Token) (tl : Token) (hf : e.flat = pre ++ tl :: one :: plus :: rest)
    (hpre : tildeFree pre = true) (hrest : tildeFree rest = true) : implicitOne e = true := by
  cases e with
  | binary l op r =>
    replace hk : (op.kind == .TILDE) = true := hk
    simp only [stratTop, hk, if_true, Bool.and_eq_true, decide_eq_true_eq] at hst
    obtain ⟨⟨_, hr⟩, hlv⟩ := hst
    have hd : tildeFree (one :: plus :: rest) = true := by
      simp only [tildeFree, List.all_cons, one_not_tilde, plus_not_tilde, Bool.not_false,
        Bool.true_and] at hrest ⊢
      exact hrest
    simp only [Expr.flat] at hf
    obtain ⟨_, hrf⟩ := split_unique _ _ _ _ op tl hk hpre hd hf
    have hsp := spine r hr rest hrf
    simp only [implicitOne, rhsOf, hk, if_true]
    exact chainHead_one r hr hsp (root_lvl2 hr hlv (spine_lvl r hr hsp))
  | _ => simp [rootTilde] at hk

end FormulaeModel.Proofs.ScannerShape
