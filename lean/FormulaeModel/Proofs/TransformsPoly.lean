import FormulaeModel.Proofs.TransformsOrtho
/-
Tie between the memoised, NaN-aware model of `Polynomial.eval` (`Poly.step/loop/evalOrtho`) and
the pure three-term recurrence `Ortho.p` — for the training call and for later calls on other
data (the memoised `alpha`/`norms2` make it the same polynomial map).
-/
namespace FormulaeModel.Transforms.Poly
open FormulaeModel.Transforms FormulaeModel.Transforms.Ortho

/-- column `k`: the training polynomial `P_k` (coefficients from `x`) evaluated on the data `y` -/
def col (x y : List Rat) (k : Nat) : List Num := y.map (fun v => some (p x k v))

/-- every memoised value is the training value -/
def MemoOK (m : Memo) (val : Nat → Rat) : Prop := ∀ k v, m.lookup k = some v → v = some (val k)
def Has (m : Memo) (k : Nat) : Prop := m.lookup k ≠ none

theorem memoOK_nil (val : Nat → Rat) : MemoOK [] val := by intro k v h; simp at h

theorem numSum_some (f : Rat → Rat) (l : List Rat) :
    Num.sum (l.map (fun v => some (f v))) = some (sum (l.map f)) := by
  induction l with
  | nil => rfl
  | cons a l ih => simp [Num.sum, ih, Num.add, sum]

theorem zip_map_self {β : Type} (y : List Rat) (f : Rat → β) :
    y.zip (y.map f) = y.map (fun v => (v, f v)) := by
  induction y with
  | nil => rfl
  | cons a l ih => simp [ih]

theorem sumSq_col (x y : List Rat) (k : Nat) :
    sumSq (col x y k) = some (ip y (p x k) (p x k)) := by
  unfold sumSq col ip
  rw [List.map_map, ← numSum_some]
  rfl

theorem sumXSq_col (x y : List Rat) (k : Nat) :
    sumXSq y (col x y k) = some (ip y (fun v => v * p x k v) (p x k)) := by
  unfold sumXSq col ip
  rw [zip_map_self, List.map_map, ← numSum_some]
  congr 1
  apply List.map_congr_left
  intro v _
  simp only [Function.comp, Num.mul]
  congr 1; ring

theorem lookup_cons_ne (k j : Nat) (v : Num) (m : Memo) (h : j ≠ k) :
    List.lookup j ((k, v) :: m) = List.lookup j m := by
  have : (j == k) = false := by simpa using h
  simp [List.lookup, this]

theorem memoOK_cons (m : Memo) (val : Nat → Rat) (k : Nat) (h : MemoOK m val) :
    MemoOK ((k, some (val k)) :: m) val := by
  intro j v hj
  by_cases hjk : j = k
  · subst hjk; rw [List.lookup_cons_self] at hj; simpa using hj.symm
  · rw [lookup_cons_ne _ _ _ _ hjk] at hj; exact h j v hj

theorem has_cons (m : Memo) (k j : Nat) (v : Num) (h : Has m j) : Has ((k, v) :: m) j := by
  unfold Has at *
  by_cases hjk : j = k
  · subst hjk; rw [List.lookup_cons_self]; simp
  · rw [lookup_cons_ne _ _ _ _ hjk]; exact h

/-- every key a call with degree `D` needs is memoised -/
def Complete (am nm : Memo) (D : Nat) : Prop := (∀ k < D, Has am k) ∧ (∀ k ≤ D, Has nm k)

/-- `m'` is `m` after memoised reads of keys in `K`: no key is lost, and nothing changes when
all of `K` was there already -/
structure Ext (K : Nat → Prop) (m m' : Memo) : Prop where
  mono : ∀ j, Has m j → Has m' j
  frozen : (∀ j, K j → Has m j) → m' = m

theorem Ext.refl (K : Nat → Prop) (m : Memo) : Ext K m m := ⟨fun _ h => h, fun _ => rfl⟩

theorem Ext.trans {K : Nat → Prop} {m m1 m2 : Memo} (h1 : Ext K m m1) (h2 : Ext K m1 m2) :
    Ext K m m2 :=
  ⟨fun j h => h2.mono j (h1.mono j h), fun h => by
    have e := h1.frozen h
    subst e
    exact h2.frozen h⟩

/-- a memoised read (`get_alpha`, `get_norm`); `c` has to be the training value only if it is computed -/
theorem memo_ok (val : Nat → Rat) {K : Nat → Prop} (m : Memo) {k : Nat} (hk : K k) (c : Num)
    (hok : MemoOK m val) (hmode : Has m k ∨ c = some (val k)) :
    ∃ m', (match m.lookup k with | some a => (m, a) | none => ((k, c) :: m, c))
        = (m', some (val k)) ∧ MemoOK m' val ∧ Ext K m m' ∧ Has m' k := by
  cases hl : List.lookup k m with
  | some a =>
    cases hok k a hl
    exact ⟨m, rfl, hok, .refl K m, by simp [Has, hl]⟩
  | none =>
    rcases hmode with h | rfl
    · exact absurd hl h
    · exact ⟨_, rfl, memoOK_cons m _ k hok,
        ⟨fun j h => has_cons m k j _ h, fun h => absurd hl (h k hk)⟩, by simp [Has]⟩

/-- What holds of the memos throughout a call of degree `D` on data `y`: they store training
values, and the call is the training call (same data) or every key it reads is memoised. -/
structure Inv (x y : List Rat) (D : Nat) (am nm : Memo) : Prop where
  alpha : MemoOK am (alpha x)
  norm : MemoOK nm (norm2 x)
  mode : y = x ∨ Complete am nm D

theorem Inv.next {x y : List Rat} {D : Nat} {am nm am' nm' : Memo} (h : Inv x y D am nm)
    (hA : MemoOK am' (Ortho.alpha x)) (hM : MemoOK nm' (norm2 x))
    (eA : ∀ j, Has am j → Has am' j) (eM : ∀ j, Has nm j → Has nm' j) : Inv x y D am' nm' :=
  ⟨hA, hM, h.mode.imp_right fun c => ⟨fun k hk => eA k (c.1 k hk), fun k hk => eM k (c.2 k hk)⟩⟩

theorem getAlpha_ok {x y : List Rat} {D : Nat} {am nm : Memo} (h : Inv x y D am nm)
    (hN : ∀ j < D, norm2 x j ≠ 0) {k : Nat} (hk : k < D) :
    ∃ am', getAlpha am k y (col x y k) = (am', some (Ortho.alpha x k)) ∧ Inv x y D am' nm ∧
      Ext (· < D) am am' ∧ Has am' k := by
  obtain ⟨am', hg, hA, e, hk'⟩ := memo_ok (Ortho.alpha x) (K := (· < D)) am hk
    (Num.div (sumXSq y (col x y k)) (sumSq (col x y k))) h.alpha
    (h.mode.symm.imp (fun c => c.1 k hk) fun e => by
      subst e
      rw [sumXSq_col, sumSq_col]
      exact if_neg (hN k hk))
  exact ⟨am', hg, h.next hA h.norm e.mono fun _ hj => hj, e, hk'⟩

theorem getNorm_ok {x y : List Rat} {D : Nat} {am nm : Memo} (h : Inv x y D am nm) {k : Nat}
    (hk : k ≤ D) :
    ∃ nm', getNorm nm k (col x y k) = (nm', some (norm2 x k)) ∧ Inv x y D am nm' ∧
      Ext (· ≤ D) nm nm' ∧ Has nm' k := by
  obtain ⟨nm', hg, hM, e, hk'⟩ := memo_ok (norm2 x) (K := (· ≤ D)) nm hk (sumSq (col x y k)) h.norm
    (h.mode.symm.imp (fun c => c.2 k hk) fun e => by subst e; exact sumSq_col y y k)
  exact ⟨nm', hg, h.next h.alpha hM (fun _ hj => hj) e.mono, e, hk'⟩

theorem p1_eq (x y : List Rat) (k : Nat) (a : Rat) :
    (y.zip (col x y k)).map (fun vc => Num.mul (Num.sub (some vc.1) (some a)) vc.2)
      = y.map (fun v => some ((v - a) * p x k v)) := by
  unfold col
  rw [zip_map_self, List.map_map]
  rfl

theorem step_ok {x y : List Rat} {D : Nat} {am nm : Memo} (hN : ∀ j < D, norm2 x j ≠ 0)
    (h : Inv x y D am nm) {k : Nat} (hk : k < D) (prev : List Num)
    (hprev : ∀ k', k = k' + 1 → prev = col x y k') :
    ∃ am' nm', step y (k + 1) am nm (col x y k) prev = (am', nm', col x y (k + 1)) ∧
      Inv x y D am' nm' ∧ Ext (· < D) am am' ∧ Ext (· ≤ D) nm nm' ∧ Has am' k := by
  obtain ⟨am', hga, h1, eA, hHas⟩ := getAlpha_ok h hN hk
  unfold step
  simp only [Nat.add_sub_cancel, hga, p1_eq]
  cases k with
  | zero =>
    simp only [show ¬ (2 ≤ 0 + 1) by decide, if_false]
    refine ⟨am', nm, ?_, h1, eA, .refl _ nm, hHas⟩
    congr 2
    unfold col
    apply List.map_congr_left
    intro v _
    rw [p_succ, b_zero, zero_mul, sub_zero]
  | succ k' =>
    cases hprev k' rfl
    simp only [show 2 ≤ k' + 1 + 1 from Nat.le_add_left 2 k', if_true,
      show k' + 1 + 1 - 2 = k' from rfl]
    obtain ⟨nm1, hg1, h2, e1, _⟩ := getNorm_ok h1 (Nat.le_of_lt hk)
    obtain ⟨nm2, hg0, h3, e0, _⟩ := getNorm_ok h2 (Nat.le_of_lt (Nat.lt_of_succ_lt hk))
    rw [hg1]
    simp only
    rw [hg0]
    refine ⟨am', nm2, ?_, h3, eA, e1.trans e0, hHas⟩
    congr 2
    simp only [Num.div, hN k' (Nat.lt_of_succ_lt hk), if_false]
    unfold col
    rw [List.zip_map', List.map_map]
    apply List.map_congr_left
    intro v _
    simp only [Function.comp, Num.mul, Num.sub]
    rw [p_succ_succ]

theorem loop_ok {x y : List Rat} {D : Nat} (hN : ∀ j < D, norm2 x j ≠ 0) :
    ∀ todo k am nm acc prev, k + todo = D → Inv x y D am nm →
      (∀ k', k = k' + 1 → prev = col x y k') →
      ∃ am' nm', loop y todo (k + 1) am nm (col x y k) prev acc
          = (am', nm', acc.reverse ++ (List.range' (k + 1) todo).map (col x y)) ∧
        Inv x y D am' nm' ∧ Ext (· < D) am am' ∧ Ext (· ≤ D) nm nm' ∧
        (∀ j, k ≤ j → j < k + todo → Has am' j) := by
  intro todo
  induction todo with
  | zero =>
    intro k am nm acc prev _ h _
    exact ⟨am, nm, by simp [loop], h, .refl _ am, .refl _ nm, fun j h1 h2 => by omega⟩
  | succ todo ih =>
    intro k am nm acc prev hk h hprev
    obtain ⟨am1, nm1, hs, h1, eA, eM, hHask⟩ := step_ok hN h (by omega) prev hprev
    obtain ⟨am2, nm2, hl, h2, eA2, eM2, hHas2⟩ :=
      ih (k + 1) am1 nm1 (col x y (k + 1) :: acc) (col x y k) (by omega) h1
        (fun k' hk' => by cases hk'; rfl)
    refine ⟨am2, nm2, ?_, h2, eA.trans eA2, eM.trans eM2, fun j h1 h2 => ?_⟩
    · simp only [loop, hs]
      rw [hl]
      simp [List.range'_succ]
    · by_cases hj : j = k
      · subst hj; exact eA2.mono _ hHask
      · exact hHas2 j (by omega) (by omega)

theorem finalNorms_ok {x y : List Rat} {D : Nat} {am : Memo} :
    ∀ m k nm, k + m ≤ D + 1 → Inv x y D am nm →
      ∃ nm', finalNorms nm k ((List.range' k m).map (col x y))
          = (nm', (List.range' k m).map (fun j => some (norm2 x j))) ∧
        Inv x y D am nm' ∧ Ext (· ≤ D) nm nm' ∧ (∀ j, k ≤ j → j < k + m → Has nm' j) := by
  intro m
  induction m with
  | zero =>
    intro k nm _ h
    exact ⟨nm, by simp [finalNorms], h, .refl _ nm, fun j h1 h2 => by omega⟩
  | succ m ih =>
    intro k nm hk h
    obtain ⟨nm1, hg, h1, e1, hk1⟩ := getNorm_ok h (k := k) (by omega)
    obtain ⟨nm2, hf, h2, e2, hhas2⟩ := ih (k + 1) nm1 (by omega) h1
    refine ⟨nm2, ?_, h2, e1.trans e2, fun j h1 h2 => ?_⟩
    · simp only [List.range'_succ, List.map_cons, finalNorms, hg, hf]
    · by_cases hj : j = k
      · subst hj; exact e2.mono _ hk1
      · exact hhas2 j (by omega) (by omega)

theorem col_zero (x y : List Rat) : col x y 0 = y.map (fun _ => some 1) := rfl

theorem zip_drop_norms (x y : List Rat) (D : Nat) :
    ((List.range' 1 D).map (col x y)).zip
        (((List.range' 0 (D + 1)).map (fun j => (some (norm2 x j) : Num))).drop 1)
      = (List.range' 1 D).map (fun k => (col x y k, (some (norm2 x k) : Num))) := by
  rw [List.range'_succ]
  simp only [List.map_cons, List.drop_succ_cons, List.drop_zero, Nat.zero_add]
  generalize List.range' 1 D = l
  induction l with
  | nil => rfl
  | cons a l ih => simp [ih]

theorem evalOrtho_ok (x y : List Rat) (s : St) (hN : ∀ j < s.degree, norm2 x j ≠ 0)
    (hA : MemoOK s.alpha (alpha x)) (hM : MemoOK s.norms2 (norm2 x))
    (hmode : y = x ∨ Complete s.alpha s.norms2 s.degree) :
    ∃ am' nm', evalOrtho s y
        = ({ s with alpha := am', norms2 := nm' },
           (List.range' 1 s.degree).map (fun k => (col x y k, (some (norm2 x k) : Num)))) ∧
      MemoOK am' (alpha x) ∧ MemoOK nm' (norm2 x) ∧ Complete am' nm' s.degree ∧
      (Complete s.alpha s.norms2 s.degree → am' = s.alpha ∧ nm' = s.norms2) := by
  obtain ⟨am1, nm1, hl, h1, eA, eM, hHasA⟩ :=
    loop_ok hN s.degree 0 s.alpha s.norms2 [] [] (Nat.zero_add _) ⟨hA, hM, hmode⟩
      (fun k' h => nomatch h)
  obtain ⟨nm2, hf, h2, eM2, hhas2⟩ := finalNorms_ok (s.degree + 1) 0 nm1 (by omega) h1
  refine ⟨am1, nm2, ?_, h2.alpha, h2.norm, ⟨fun k hk => hHasA k (Nat.zero_le k) (by omega),
    fun k hk => hhas2 k (Nat.zero_le k) (by omega)⟩,
    fun hc => ⟨eA.frozen hc.1, (eM.trans eM2).frozen hc.2⟩⟩
  unfold evalOrtho
  simp only [← col_zero x y, Nat.zero_add] at hl ⊢
  rw [hl]
  simp only [List.reverse_nil, List.nil_append]
  have : col x y 0 :: (List.range' 1 s.degree).map (col x y)
      = (List.range' 0 (s.degree + 1)).map (col x y) := by
    rw [List.range'_succ]; rfl
  rw [this, hf]
  simp only
  rw [zip_drop_norms]

end FormulaeModel.Transforms.Poly
