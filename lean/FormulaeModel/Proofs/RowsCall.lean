import FormulaeModel.Proofs.ShapeEval
/-
The element-wise operators, the argument lists and the pieces the modelled callees are made of
(`dataLevels`, `CategoricalBox`, `proportion`) commute with row selection.
-/
namespace FormulaeModel.Design

theorem Val.sized_of_good {n : Nat} {v : Val} (h : v.good n) : v.sized n = true := by
  cases v <;> simp_all [Val.good, Val.sized]

theorem getD_zipWith_entryOp (f : Rat → Rat → Option Rat) (xs ys : List Entry) (i : Nat) :
    (List.zipWith (entryOp f) xs ys).getD i none = entryOp f (xs.getD i none) (ys.getD i none) := by
  simp only [List.getD_eq_getElem?_getD, List.getElem?_zipWith]
  cases xs[i]? <;> cases ys[i]? <;> simp [entryOp]

theorem pick_zipWith_entryOp (f : Rat → Rat → Option Rat) (xs ys : List Entry) (is : List Nat) :
    pick is none (List.zipWith (entryOp f) xs ys) =
      List.zipWith (entryOp f) (pick is none xs) (pick is none ys) := by
  induction is with
  | nil => rfl
  | cons i is ih =>
    simp only [pick, List.map_cons, List.zipWith_cons_cons] at ih ⊢
    rw [ih, getD_zipWith_entryOp]

theorem pick_map_none {α β : Type} (g : Option α → Option β) (hg : g none = none) (is : List Nat)
    (xs : List (Option α)) : pick is none (xs.map g) = (pick is none xs).map g :=
  hg ▸ pick_map g is none xs

theorem vecOp_rows (f : Rat → Rat → Option Rat) (a b c : Val) (is : List Nat)
    (h : vecOp f a b = .ok c) : vecOp f (a.rows is) (b.rows is) = .ok (c.rows is) := by
  unfold vecOp at h
  split at h
  · simp only [pure, Except.pure, Except.ok.injEq] at h; subst h
    simp [vecOp, Val.rows, pure, Except.pure, pick_zipWith_entryOp]
  · simp only [pure, Except.pure, Except.ok.injEq] at h; subst h
    simp only [vecOp, Val.rows, pure, Except.pure, Except.ok.injEq, Val.vec.injEq, and_true]
    rw [pick_map_none _ (by rfl)]
  · simp only [pure, Except.pure, Except.ok.injEq] at h; subst h
    simp only [vecOp, Val.rows, pure, Except.pure, Except.ok.injEq, Val.vec.injEq, and_true]
    rw [pick_map_none _ (by rfl)]
  · split at h
    · simp only [pure, Except.pure, Except.ok.injEq] at h; subst h
      simp [vecOp, Val.rows, pure, Except.pure, *]
    · simp at h
  · simp at h

theorem vecOp_good (f : Rat → Rat → Option Rat) (a b c : Val) (n : Nat) (ha : a.good n) (hb : b.good n)
    (h : vecOp f a b = .ok c) : c.good n := by
  have hs := vecOp_sized f a b c n (Val.sized_of_good ha) (Val.sized_of_good hb) h
  rcases vecOp_ok h with ⟨xs, i, rfl⟩ | ⟨q, i, rfl⟩
  · simpa [Val.good, Val.sized] using hs
  · trivial

theorem unaryVal_rows {op : Token} {x v : Val} (is : List Nat) (h : unaryVal op x = .ok v) :
    unaryVal op (x.rows is) = .ok (v.rows is) := by
  unfold unaryVal at h ⊢
  split
  · rw [if_pos ‹_›] at h; exact vecOp_rows _ _ _ _ is h
  · rw [if_neg ‹_›] at h; cases h; rfl

theorem binopVal_rows {op : Token} {a b v : Val} (is : List Nat) (h : binopVal op a b = .ok v) :
    binopVal op (a.rows is) (b.rows is) = .ok (v.rows is) := by
  unfold binopVal at h ⊢
  split at h
  · exact vecOp_rows _ _ _ _ is h
  · exact vecOp_rows _ _ _ _ is h
  · exact vecOp_rows _ _ _ _ is h
  · split at h
    · split at h
      · cases h
      · simp only [Val.rows, if_neg ‹_›]; exact vecOp_rows _ _ _ _ is h
    · cases h
  · cases h

def CallArgs.rows (a : CallArgs) (is : List Nat) : CallArgs :=
  ⟨a.pos.map (Val.rows is), a.kw.map (fun p => (p.1, p.2.rows is))⟩

def CallArgs.good (n : Nat) (a : CallArgs) : Prop :=
  (∀ v ∈ a.pos, v.good n) ∧ (∀ p ∈ a.kw, p.2.good n)

theorem CallArgs.good_iff_all {n : Nat} {a : CallArgs} : a.good n ↔ a.all (Val.good n) :=
  .rfl

theorem CallArgs.get_rows (a : CallArgs) (is : List Nat) (i : Nat) (name : String) :
    (a.rows is).get i name = (a.get i name).rows is := by
  simp only [CallArgs.get, CallArgs.rows, List.getElem?_map]
  cases a.pos[i]? with
  | some v => rfl
  | none =>
    simp only [Option.map_none, List.find?_map]
    have : ((fun (x : String × Val) => x.1 == name) ∘ fun (p : String × Val) => (p.1, Val.rows is p.2))
        = fun x => x.1 == name := rfl
    rw [this]
    cases List.find? (fun x => x.1 == name) a.kw <;> rfl

theorem CallArgs.rows_push (acc : CallArgs) (k : Option String) (x : Val) (is : List Nat) :
    (acc.push k x).rows is = (acc.rows is).push k (x.rows is) := by
  cases k <;> simp [CallArgs.push, CallArgs.rows]

theorem levelOfVal_rows (v : Val) (is : List Nat) : levelOfVal (v.rows is) = levelOfVal v := by
  cases v <;> rfl

theorem contrastOfVal_rows (v : Val) (is : List Nat) : contrastOfVal (v.rows is) = contrastOfVal v := by
  cases v <;> rfl

theorem levelsOfVal_rows (v : Val) (is : List Nat) : levelsOfVal (v.rows is) = levelsOfVal v := by
  cases v <;> rfl

/-- no explicit levels, data not an ordered categorical: `CategoricalBox` makes no check -/
theorem mkBox_plain (data : List (Option Level)) (decl : Option (Bool × List String))
    (contrast : Option Contrast) (hdecl : ∀ cats, decl ≠ some (true, cats)) :
    mkBox data decl contrast none = .ok ⟨data, contrast, none⟩ := by
  cases decl with
  | none => rfl
  | some p =>
    obtain ⟨b, cats⟩ := p
    cases b with
    | false => rfl
    | true => exact absurd rfl (hdecl cats)

def Val.isPyNone : Val → Bool
  | .pyNone => true
  | _ => false

def Val.notOrdered : Val → Bool
  | .lvec _ (some (true, _)) => false
  | _ => true

/-- outside the part of the D13 class that is visible at a call node at training time: not a
`C/T/S` call that receives explicit `levels` or whose data is an ordered categorical -/
def d13ArgsOk (callee : String) (a : CallArgs) : Bool :=
  if callee == "C" || callee == "T" || callee == "S" then
    (a.get 2 "levels").isPyNone && (a.get 0 "data").notOrdered
  else true

theorem dataLevels_rows (d : Val) (is : List Nat) (xs : List (Option Level)) (decl : Option (Bool × List String))
    (h : dataLevels d = .ok (xs, decl)) : dataLevels (d.rows is) = .ok (pick is none xs, decl) := by
  rcases dataLevels_ok h with rfl | ⟨ys, rfl, rfl, rfl⟩
  · rfl
  · exact congrArg (fun l => Except.ok (l, none)) (pick_map_none _ rfl is ys).symm

theorem dataLevels_decl (d : Val) (xs : List (Option Level)) (decl : Option (Bool × List String))
    (hd : d.notOrdered = true)
    (h : dataLevels d = .ok (xs, decl)) : ∀ cats, decl ≠ some (true, cats) := by
  rcases dataLevels_ok h with rfl | ⟨ys, rfl, rfl, rfl⟩
  · rintro cats rfl; cases hd
  · exact fun _ h => nomatch h

theorem levelsOfVal_none (v : Val) (h : v.isPyNone = true) : levelsOfVal v = .ok none := by
  revert h; cases v <;> simp [levelsOfVal, Val.isPyNone, pure, Except.pure]

theorem boxContrast_rows (callee : String) (a : CallArgs) (is : List Nat) :
    boxContrast callee (a.rows is) = boxContrast callee a := by
  unfold boxContrast
  split <;> simp only [CallArgs.get_rows, contrastOfVal_rows, levelOfVal_rows]

theorem isIntegral_pick (xs : List Entry) (is : List Nat) (h : isIntegral xs = true)
    (his : ∀ i ∈ is, i < xs.length) : isIntegral (pick is none xs) = true := by
  simp only [isIntegral, List.all_eq_true] at h ⊢
  intro x hx
  exact h x (mem_pick is none xs his x hx)

theorem zipWith_all_pick {α β : Type} (g : α → β → Bool) (xs : List α) (ys : List β) (d : α) (d' : β)
    (is : List Nat) (h : (List.zipWith g xs ys).all id = true) (hx : ∀ i ∈ is, i < xs.length)
    (hy : ∀ i ∈ is, i < ys.length) : (List.zipWith g (pick is d xs) (pick is d' ys)).all id = true := by
  induction is with
  | nil => rfl
  | cons i is ih =>
    have hi := hx i (by simp)
    have hi' := hy i (by simp)
    simp only [pick, List.map_cons, List.zipWith_cons_cons, List.all_cons, id, Bool.and_eq_true] at ih ⊢
    refine ⟨?_, ih (fun j hj => hx j (by simp [hj])) (fun j hj => hy j (by simp [hj]))⟩
    simp only [List.all_eq_true] at h
    have := h (g xs[i] ys[i]) (by
      rw [List.mem_iff_getElem]
      exact ⟨i, by simp only [List.length_zipWith]; omega, by simp⟩)
    simpa [List.getD_eq_getElem?_getD, List.getElem?_eq_getElem hi, List.getElem?_eq_getElem hi'] using this

theorem trialsOf_rows {n : Nat} {t : Val} {ts : List Entry} {c : Option Rat} (is : List Nat)
    (his : ∀ i ∈ is, i < n) (h : trialsOf n t = .ok (ts, c)) :
    trialsOf is.length (t.rows is) = .ok (pick is none ts, c) := by
  rcases trialsOf_ok h with ⟨b, rfl, rfl⟩ | ⟨q, rfl, rfl, rfl⟩
  · rfl
  · rw [pick_replicate is none (some q) n his]; rfl

theorem proportionFn_rows (s t v : Val) (n : Nat) (is : List Nat) (hs : s.sized n = true)
    (ht : t.sized n = true) (his : ∀ i ∈ is, i < n) (h : proportionFn s t = .ok v) :
    proportionFn (s.rows is) (t.rows is) = .ok (v.rows is) := by
  obtain ⟨ss, b, ts, c, rfl, htr, h1, h2, h3, rfl⟩ := proportionFn_ok.1 h
  have hss : ss.length = n := by simpa [Val.sized] using hs
  have hts : ts.length = n := trialsOf_sized ht (hss ▸ htr)
  refine proportionFn_ok.2 ⟨pick is none ss, b, pick is none ts, c, rfl, ?_,
    isIntegral_pick _ is h1 (hss ▸ his), isIntegral_pick _ is h2 (hts ▸ his),
    zipWith_all_pick _ _ _ none none is h3 (hss ▸ his) (hts ▸ his), rfl⟩
  rw [pick_length]
  exact trialsOf_rows is his (hss ▸ htr)

end FormulaeModel.Design
