import FormulaeModel.Proofs.Indicator
import FormulaeModel.Proofs.PermSort
import FormulaeModel.Spec.C15
import FormulaeModel.Proofs.CompForm
import FormulaeModel.Proofs.ExceptLemmas
/-
The first of the sorted levels is a smallest value of the data; the fully coded rows of a
categorical are the indicator rows of the statement, the levels in the order of the statement
(`evalCategoric_full`).
-/
namespace FormulaeModel.Design

theorem sortLevels_head_min (ls : List Level) (m : Level) (rest : List Level)
    (h : sortLevels ls = some (m :: rest)) : m ∈ ls ∧ ∀ l ∈ ls, levelLt l m = false := by
  obtain ⟨hn, hm, hs⟩ := sortLevels_spec ls _ h
  refine ⟨(hm m).1 (by simp), fun l hl => ?_⟩
  have hl' := (hm l).2 hl
  simp only [List.mem_cons] at hl'
  rcases hl' with rfl | hl'
  · cases l <;> simp [levelLt, Level.lt?]
  · simp only [SortedBy, List.pairwise_cons] at hs
    exact hs.1 l hl'

theorem unitRow_indicator (levels : List Level) (hn : levels.Nodup) (l : Level) (i : Nat)
    (hi : indexOf? l levels = some i) :
    rowOfInts (unitRow levels.length i) =
      levels.map (fun l' => some (if some l == some l' then (1 : Rat) else 0)) := by
  obtain ⟨hlt, hget⟩ := indexOf?_some l levels i hi
  apply List.ext_getElem
  · simp [rowOfInts, unitRow]
  · intro k h1 h2
    have hk : k < levels.length := by simpa using h2
    simp only [rowOfInts, unitRow, List.getElem_map, List.getElem_range]
    by_cases hki : k = i
    · subst hki; simp [hget]
    · have : levels[k] ≠ l := by
        intro he
        exact hki (nodup_index_unique levels hn k i hk hlt (he.trans hget.symm))
      have h3 : ¬ (l = levels[k]) := fun he => this he.symm
      simp [hki, h3]

/-- **full coding = one indicator column per level** (`contrast_matrix.matrix[codes]`), for
distinct levels -/
theorem codeRows_full_eq (levels : List Level) (hn : levels.Nodup) (xs : List (Option Level)) (m : Matrix)
    (h : codeRows (treatmentFull levels) levels xs = .ok m) :
    m = xs.map (fun x => levels.map (fun l => some (if x == some l then (1 : Rat) else 0))) := by
  obtain ⟨hl, hall⟩ := codeRows_rows _ _ _ _ h
  apply List.ext_getElem (by simpa using hl)
  intro r hr hr'
  obtain ⟨l, g, hx, hg, hlt, hrow⟩ := hall r hr
  rw [List.getElem?_eq_getElem (by omega), Option.some.injEq] at hx
  rw [hrow, treatmentFull_getD levels g hlt, List.getElem_map, hx]
  exact unitRow_indicator levels hn l g hg

/-- the level order of the statement is duplicate-free (for an ordered categorical: when the
declared categories are, as pandas guarantees) -/
theorem levelOrder_nodup (xs : List (Option Level)) (d : Option (Bool × List String))
    (hd : ∀ cats, d = some (true, cats) → cats.Nodup) (levels : List Level)
    (h : Spec.C15.levelOrder xs d = some levels) : levels.Nodup := by
  unfold Spec.C15.levelOrder at h
  split at h
  · rename_i cats
    simp only [Option.some.injEq] at h
    subst h
    have := hd cats rfl
    simp only [List.Nodup, List.pairwise_map] at this ⊢
    exact this.imp (fun h he => h (by cases he; rfl))
  · exact (sortLevels_spec _ _ h).1

theorem levelOrder_of_levelsFor (xs : List (Option Level)) (d : Option (Bool × List String))
    (levels : List Level) (h : levelsFor (declaredLevels d) xs = .ok levels) :
    Spec.C15.levelOrder xs d = some levels := by
  rcases d with _ | ⟨_ | _, cats⟩ <;> simp only [levelsFor, declaredLevels, Spec.C15.levelOrder] at h ⊢
  · cases hs : sortLevels (xs.filterMap id) <;> rw [hs] at h <;> cases h; rfl
  · cases hs : sortLevels (xs.filterMap id) <;> rw [hs] at h <;> cases h; rfl
  · cases h; rfl

/-- `eval_categoric` with the full coding: levels in the order of the statement, indicator
columns, labels `name[level]` -/
theorem evalCategoric_full (name : String) (xs : List (Option Level)) (d : Option (Bool × List String))
    (hd : ∀ cats, d = some (true, cats) → cats.Nodup)
    (levels : List Level) (cm : ContrastMatrix) (m : Matrix)
    (h : evalCategoric name xs d true = .ok (levels, cm, m)) :
    Spec.C15.levelOrder xs d = some levels ∧ cm = treatmentFull levels ∧
    m = xs.map (fun x => levels.map (fun l => some (if x == some l then (1 : Rat) else 0))) := by
  rw [evalCategoric_eq] at h
  refine of_ite_eq h nofun fun h => ?_
  simp only [codeWith, bind_ok, pure_ok, Contrast.code] at h
  obtain ⟨_, hl, _, rfl, v, hv, he⟩ := h
  cases he
  have hl := levelOrder_of_levelsFor xs d _ hl
  exact ⟨hl, rfl, codeRows_full_eq _ (levelOrder_nodup xs _ hd _ hl) xs _ hv⟩

end FormulaeModel.Design
