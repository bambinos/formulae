import FormulaeModel.Proofs.EvalInv
/-
The built-in functions of `finishCall`, each brought to a form its properties can be read from.
-/
namespace FormulaeModel.Design

theorem vecOp_ok {f : Rat → Rat → Option Rat} {a b c : Val} (h : vecOp f a b = .ok c) :
    (∃ xs i, c = .vec xs i) ∨ ∃ q i, c = .num q i := by
  unfold vecOp at h
  -- every arm is an error, a `.vec` or a `.num`
  repeat' split at h
  all_goals first
    | (cases h; done)
    | (cases h; exact .inl ⟨_, _, rfl⟩)
    | (cases h; exact .inr ⟨_, _, rfl⟩)

theorem unaryVal_keeps {p : Val → Prop} (hnum : ∀ q i, p (.num q i))
    (hvec : ∀ f a b c, p a → p b → vecOp f a b = .ok c → p c) {op : Token} {x v : Val} (hx : p x)
    (h : unaryVal op x = .ok v) : p v := by
  unfold unaryVal at h
  split at h
  · exact hvec _ _ _ _ (hnum _ _) hx h
  · cases h; exact hx

theorem binopVal_keeps {p : Val → Prop} (hnum : ∀ q i, p (.num q i))
    (hvec : ∀ f a b c, p a → p b → vecOp f a b = .ok c → p c) {op : Token} {a b v : Val} (ha : p a)
    (hb : p b) (h : binopVal op a b = .ok v) : p v := by
  unfold binopVal at h
  -- every arm is an error or `vecOp` of `a` and of `b` or a number
  repeat' split at h
  all_goals first
    | (cases h; done)
    | exact hvec _ _ _ _ ha hb h
    | exact hvec _ _ _ _ ha (hnum _ _) h

/-- the success value of `binary` on a numeric column: given, or the smallest value present -/
def successNum (vals : List Rat) : Val → M Rat
  | .pyNone => match sortBy (· < ·) vals with
    | v :: _ => pure v
    | [] => .error (.valueError "empty")
  | .num q _ => pure q
  | _ => .error (.valueError "No value in 'x' is equal")

def successLvl (vals : List Level) : Val → M Level
  | .pyNone => match sortLevels vals with
    | some (v :: _) => pure v
    | _ => .error (.valueError "empty")
  | v => match levelOfVal v with
    | some l => pure l
    | Option.none => .error (.valueError "No value in 'x' is equal")

/-- `binary` on a column, given how the success value is chosen from the values present -/
def binaryOn {α : Type} [DecidableEq α] (xs : List (Option α)) (success : List α → M α) : M Val :=
  if xs.any Option.isNone then .error (.unmodelled "binary of data with NaN") else
  success (xs.filterMap id) >>= fun s =>
  if (xs.filterMap id).contains s then pure (.vec (xs.map (fun v => some (if v == some s then 1 else 0))) true)
  else .error (.valueError "No value in 'x' is equal")

/-- `binaryFn`, with the choice of the success value taken out of the two column cases -/
def binaryCore (x : Val) (success : Val) : M Val :=
  match x with
  | .vec xs _ => binaryOn xs (successNum · success)
  | .lvec xs _ => binaryOn xs (successLvl · success)
  | _ => .error (.unmodelled "binary of this type")

theorem binaryFn_eq (x s : Val) : binaryFn x s = binaryCore x s := by
  cases x
  case vec xs b =>
    cases s
    case pyNone =>
      simp only [binaryFn, binaryCore, binaryOn, successNum]
      generalize sortBy _ _ = l
      cases l <;> rfl
    all_goals rfl
  case lvec xs b =>
    cases s
    case pyNone =>
      simp only [binaryFn, binaryCore, binaryOn, successLvl]
      generalize sortLevels _ = l
      rcases l with _ | _ | _ <;> rfl
    case num q b => cases b <;> rfl
    all_goals rfl
  all_goals rfl

theorem binaryOn_ok {α : Type} [DecidableEq α] {xs : List (Option α)} {success : List α → M α}
    {v : Val} : binaryOn xs success = .ok v ↔
      ∃ s, xs.any Option.isNone = false ∧ success (xs.filterMap id) = .ok s ∧
        (xs.filterMap id).contains s = true ∧
        v = .vec (xs.map (fun e => some (if e == some s then 1 else 0))) true := by
  unfold binaryOn
  constructor
  · intro h
    split at h
    · cases h
    · obtain ⟨s, hs, h⟩ := (bind_ok _ _ _).1 h
      split at h
      · cases h; exact ⟨s, Bool.eq_false_iff.2 ‹_›, hs, ‹_›, rfl⟩
      · cases h
  · rintro ⟨s, hna, hs, hc, rfl⟩
    rw [hna, hs]
    simp only [Bool.false_eq_true, if_false, ok_bind, hc, if_true]
    rfl

theorem binaryFn_ok {x s v : Val} (h : binaryFn x s = .ok v) :
    ∃ ys, v = .vec ys true ∧
      ((∃ xs b, x = .vec xs b ∧ ys.length = xs.length) ∨ ∃ xs d, x = .lvec xs d ∧ ys.length = xs.length) := by
  rw [binaryFn_eq] at h
  cases x
  case vec xs b =>
    have h : binaryOn xs (successNum · s) = .ok v := h
    obtain ⟨_, _, _, _, rfl⟩ := binaryOn_ok.1 h
    exact ⟨_, rfl, .inl ⟨xs, b, rfl, List.length_map _⟩⟩
  case lvec xs d =>
    have h : binaryOn xs (successLvl · s) = .ok v := h
    obtain ⟨_, _, _, _, rfl⟩ := binaryOn_ok.1 h
    exact ⟨_, rfl, .inr ⟨xs, d, rfl, List.length_map _⟩⟩
  all_goals cases h

/-- the trials of `proportion`: a column, or an integer constant for each of the `n` rows -/
def trialsOf (n : Nat) : Val → M (List Entry × Option Rat)
  | .vec ts _ => pure (ts, Option.none)
  | .num q true => pure (List.replicate n (some q), some q)
  | _ => .error (.valueError "'trials' must be a variable name or an integer.")

theorem trialsOf_ok {n : Nat} {t : Val} {ts : List Entry} {c : Option Rat}
    (h : trialsOf n t = .ok (ts, c)) :
    (∃ b, t = .vec ts b ∧ c = none) ∨ ∃ q, t = .num q true ∧ ts = List.replicate n (some q) ∧ c = some q := by
  unfold trialsOf at h
  split at h
  · cases h; exact .inl ⟨_, rfl, rfl⟩
  · cases h; exact .inr ⟨_, rfl, rfl, rfl⟩
  · cases h

/-- row by row, successes ≤ trials (a missing entry on either side fails) -/
def leAll (ss ts : List Entry) : Bool :=
  (List.zipWith (fun a b => match a, b with | some x, some y => decide (x ≤ y) | _, _ => false) ss ts).all id

theorem proportionFn_ok {s t v : Val} : proportionFn s t = .ok v ↔
    ∃ ss b ts c, s = .vec ss b ∧ trialsOf ss.length t = .ok (ts, c) ∧ isIntegral ss = true ∧
      isIntegral ts = true ∧ leAll ss ts = true ∧ v = .prop ss ts c := by
  have key : ∀ ss b, proportionFn (.vec ss b) t = (do
      let (ts, c) ← trialsOf ss.length t
      if !isIntegral ss then .error (.valueError "'successes' must be a collection of integer numbers")
      else if !isIntegral ts then .error (.valueError "'trials' must be a collection of integer numbers")
      else if !leAll ss ts then .error (.valueError "'successes' cannot be greater than 'trials'")
      else pure (.prop ss ts c)) := by
    intro ss b
    cases t <;> try rfl
    case num q i => cases i <;> rfl
  cases s
  case vec ss b =>
    rw [key]
    simp only [bind_ok, Prod.exists, Val.vec.injEq]
    constructor
    · rintro ⟨ts, c, ht, h⟩
      -- the three checks in turn: each arm but the last is an error
      repeat' split at h
      all_goals first
        | (cases h; done)
        | (cases h; simp only [Bool.not_eq_true, Bool.not_eq_false'] at *
           exact ⟨ss, b, ts, c, ⟨rfl, rfl⟩, ht, ‹_›, ‹_›, ‹_›, rfl⟩)
    · rintro ⟨_, _, ts, c, ⟨rfl, rfl⟩, ht, h1, h2, h3, rfl⟩
      exact ⟨ts, c, ht, by simp [h1, h2, h3, pure, Except.pure]⟩
  all_goals
    constructor
    · intro h; cases h
    · rintro ⟨_, _, _, _, h, _⟩; cases h

theorem dataLevels_ok {d : Val} {xs : List (Option Level)} {decl : Option (Bool × List String)}
    (h : dataLevels d = .ok (xs, decl)) :
    d = .lvec xs decl ∨
      ∃ ys, d = .vec ys true ∧ xs = ys.map (fun x => x.map (fun q => Level.n q.num)) ∧ decl = none := by
  unfold dataLevels at h
  split at h
  · cases h; exact .inl rfl
  · cases h; exact .inr ⟨_, rfl, rfl, rfl⟩
  · cases h


def boxContrast (callee : String) (a : CallArgs) : M (Option Contrast) :=
  match callee with
  | "C" => contrastOfVal (a.get 1 "contrast")
  | "T" => pure (some (.treatment (levelOfVal (a.get 1 "ref"))))
  | "S" => pure (some (.sum (levelOfVal (a.get 1 "omit"))))
  | _ => .error .typeError

/-- the call `callee(a)` on a transform instance in state `own` returns `v` and leaves the instance
in state `own'`: one constructor per way a call of the model succeeds; only `center` has a state -/
inductive CallOk : String → CallArgs → Option Rat → Val → Option Rat → Prop
  | ident {a own x} : a.pos = [x] → CallOk "I" a own x own
  | center {a own xs i m} : a.pos = [.vec xs i] → (own = some m ∨ own = none ∧ mean xs = some m) →
      CallOk "center" a own (.vec (xs.map (fun x => x.map (· - m))) false) (some m)
  | treatment {a own} :
      CallOk "Treatment" a own (.contrast (.treatment (levelOfVal (a.get 0 "reference")))) own
  | sum {a own} : CallOk "Sum" a own (.contrast (.sum (levelOfVal (a.get 0 "omit")))) own
  /-- `C`, `T` or `S` on data that is not yet a box (`boxContrast` fails for every other callee) -/
  | box {callee a own c l xs decl b} : boxContrast callee a = .ok c →
      levelsOfVal (a.get 2 "levels") = .ok l → dataLevels (a.get 0 "data") = .ok (xs, decl) →
      mkBox xs decl c l = .ok b → CallOk callee a own (.box b) own
  | rebox {a own c l b₀ b} : a.get 0 "data" = .box b₀ → contrastOfVal (a.get 1 "contrast") = .ok c →
      levelsOfVal (a.get 2 "levels") = .ok l →
      mkBox b₀.data none (c <|> b₀.contrast) (l <|> b₀.levels) = .ok b → CallOk "C" a own (.box b) own
  | offsetVar {a own xs i} : a.pos = [.vec xs i] → CallOk "offset" a own (.offsetVar xs) own
  | offsetConst {a own q i} : a.pos = [.num q i] → CallOk "offset" a own (.offsetConst q) own
  | binary {callee a own v} : callee = "binary" ∨ callee = "B" →
      binaryFn (a.get 0 "x") (a.get 1 "success") = .ok v → CallOk callee a own v own
  | prop {callee a own v} : callee = "p" ∨ callee = "prop" ∨ callee = "proportion" →
      proportionFn (a.get 0 "successes") (a.get 1 "trials") = .ok v → CallOk callee a own v own

theorem boxContrast_callee {callee : String} {a : CallArgs} {c : Option Contrast}
    (h : boxContrast callee a = .ok c) : callee = "C" ∨ callee = "T" ∨ callee = "S" := by
  unfold boxContrast at h
  split at h
  · exact .inl rfl
  · exact .inr (.inl rfl)
  · exact .inr (.inr rfl)
  · cases h

theorem CallOk.of_finishCall {callee : String} {a : CallArgs} {own own' : Option Rat} {v : Val}
    (h : finishCall callee a own = .ok (v, own')) : CallOk callee a own v own' := by
  have fn : ∀ {m : M Val}, (do pure (← m, own)) = Except.ok (v, own') → m = .ok v ∧ own' = own := by
    intro m h
    obtain ⟨w, hw, h⟩ := (bind_ok _ _ _).1 h
    cases h; exact ⟨hw, rfl⟩
  unfold finishCall at h
  split at h
  · obtain ⟨hv, rfl⟩ := fn h; exact .binary (.inl rfl) hv
  · obtain ⟨hv, rfl⟩ := fn h; exact .binary (.inr rfl) hv
  · obtain ⟨hv, rfl⟩ := fn h; exact .prop (.inl rfl) hv
  · obtain ⟨hv, rfl⟩ := fn h; exact .prop (.inr (.inl rfl)) hv
  · obtain ⟨hv, rfl⟩ := fn h; exact .prop (.inr (.inr rfl)) hv
  unfold applyCallee at h
  split at h
  · split at h
    · cases h; exact .ident ‹_›
    · cases h
  · split at h
    · split at h
      · split at h
        · cases h; exact .center ‹_› (.inr ⟨rfl, ‹_›⟩)
        · cases h
      · cases h; exact .center ‹_› (.inl rfl)
    · cases h
  · cases h; exact .treatment
  · cases h; exact .sum
  · obtain ⟨c, hc, h⟩ := (bind_ok _ _ _).1 h
    obtain ⟨l, hl, h⟩ := (bind_ok _ _ _).1 h
    split at h
    · obtain ⟨b, hb, h⟩ := (bind_ok _ _ _).1 h
      cases h; exact .rebox ‹_› hc hl hb
    · obtain ⟨⟨xs, decl⟩, hd, h⟩ := (bind_ok _ _ _).1 h
      obtain ⟨b, hb, h⟩ := (bind_ok _ _ _).1 h
      cases h; exact .box (callee := "C") hc hl hd hb
  · obtain ⟨l, hl, h⟩ := (bind_ok _ _ _).1 h
    obtain ⟨⟨xs, decl⟩, hd, h⟩ := (bind_ok _ _ _).1 h
    obtain ⟨b, hb, h⟩ := (bind_ok _ _ _).1 h
    cases h; exact .box (callee := "T") rfl hl hd hb
  · obtain ⟨l, hl, h⟩ := (bind_ok _ _ _).1 h
    obtain ⟨⟨xs, decl⟩, hd, h⟩ := (bind_ok _ _ _).1 h
    obtain ⟨b, hb, h⟩ := (bind_ok _ _ _).1 h
    cases h; exact .box (callee := "S") rfl hl hd hb
  · split at h
    · cases h; exact .offsetVar ‹_›
    · cases h; exact .offsetConst ‹_›
    · cases h
  · cases h

theorem CallOk.finishCall {callee : String} {a : CallArgs} {own own' : Option Rat} {v : Val}
    (h : CallOk callee a own v own') : finishCall callee a own = .ok (v, own') := by
  cases h with
  | ident hp => simp only [Design.finishCall, applyCallee, hp]; rfl
  | center hp ho =>
    simp only [Design.finishCall, applyCallee, hp]
    rcases ho with rfl | ⟨rfl, hm⟩
    · rfl
    · simp only [hm]; rfl
  | treatment => rfl
  | sum => rfl
  | box hc hl hd hb =>
    unfold boxContrast at hc
    split at hc
    · show applyCallee "C" a own = _
      simp only [applyCallee, hc, hl, ok_bind]
      split
      · -- the data is not a box: `dataLevels` of a box fails
        rename_i heq; rw [heq] at hd; cases hd
      · simp only [hd, hb, ok_bind]; rfl
    · cases hc; simp only [Design.finishCall, applyCallee, hl, hd, hb, ok_bind]; rfl
    · cases hc; simp only [Design.finishCall, applyCallee, hl, hd, hb, ok_bind]; rfl
    · cases hc
  | rebox hd hc hl hb => simp only [Design.finishCall, applyCallee, hd, hc, hl, hb, ok_bind]; rfl
  | offsetVar hp => simp only [Design.finishCall, applyCallee, hp]; rfl
  | offsetConst hp => simp only [Design.finishCall, applyCallee, hp]; rfl
  | binary hc hv => rcases hc with rfl | rfl <;> simp only [Design.finishCall, hv, ok_bind] <;> rfl
  | prop hc hv => rcases hc with rfl | rfl | rfl <;> simp only [Design.finishCall, hv, ok_bind] <;> rfl

end FormulaeModel.Design
