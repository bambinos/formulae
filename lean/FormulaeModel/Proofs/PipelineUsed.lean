import FormulaeModel.Proofs.PipelineStages
/-
The two instances of the whole-pipeline model — `designMatrices` (every variable WRITTEN at a term
position counts as used; the C04 / C15 / C17 theorems are about it) and `designMatricesModel` (the
variables of the RESOLVED model, what the code does and what the driver runs) — are the same
function wherever the two readings select the same columns of the frame.
-/
namespace FormulaeModel.Pipeline
open FormulaeModel.Design

/-- the NA step looks at `used` through membership only -/
theorem selectCols_congr (u₁ u₂ : List String) (f : Frame)
    (h : ∀ c, u₁.contains c = u₂.contains c) : NA.selectCols u₁ f = NA.selectCols u₂ f := by
  unfold NA.selectCols
  congr 1
  funext c
  exact h c.name

theorem naStep_congr (actions : List String) (action : String) (u₁ u₂ : List String) (f : Frame)
    (h : ∀ c, u₁.contains c = u₂.contains c) :
    NA.naStep actions action u₁ f = NA.naStep actions action u₂ f := by
  unfold NA.naStep
  rw [selectCols_congr u₁ u₂ f h]

def selected (vars : List String) (f : Frame) : List String :=
  vars.filter ((f.map (·.name)).contains ·)

/-- the two readings of "used" select the same columns of this frame -/
def SameSelection (table : Parser.Table) (ops : Resolver.OpTable) (formula : String) (f : Frame) :
    Prop :=
  ∀ ts e m, Scanner.scan formula.toList = .ok ts → Parser.parse table ts = .ok e →
    Resolver.describe ops e = .ok m →
    ∀ c, (selected (NA.formulaVars e) f).contains c = (selected (modelVars (atomTable e) m) f).contains c

/-- **the proved pipeline is the executed pipeline** whenever no variable of the frame is written
in the formula but absent from the resolved model (i.e. unless every term of some variable is
removed again with `-`) -/
theorem designMatrices_eq_model (table : Parser.Table) (ops : Resolver.OpTable)
    (actions : List String) (formula : String) (env : Env) (naAction : String)
    (h : SameSelection table ops formula env.frame) :
    designMatrices table ops actions formula env naAction =
      designMatricesModel table ops actions formula env naAction := by
  -- the two instances differ in the front end only, and there only in the columns handed to the NA step
  have hf : frontEnd (fun e _ => NA.formulaVars e) table ops actions formula env naAction =
      frontEnd (fun e m => modelVars (atomTable e) m) table ops actions formula env naAction :=
    stage_bind_congr fun ts hs => stage_bind_congr fun e hp => stage_bind_congr fun m hd =>
      congrArg (stage · _ >>= _) (naStep_congr actions naAction _ _ env.frame (h ts e m hs hp hd))
  rw [designMatrices, designMatricesModel, designMatricesWith_eq, designMatricesWith_eq, hf]

/-- decidable form of `SameSelection` for a concrete text and frame -/
def sameSel (table : Parser.Table) (ops : Resolver.OpTable) (formula : String) (f : Frame) : Bool :=
  match Scanner.scan formula.toList with
  | .ok ts =>
    (match Parser.parse table ts with
     | .ok e =>
       (match Resolver.describe ops e with
        | .ok m => (f.map (·.name)).all (fun c =>
            (selected (NA.formulaVars e) f).contains c ==
              (selected (modelVars (atomTable e) m) f).contains c)
        | .error _ => true)
     | .error _ => true)
  | .error _ => true

theorem selected_not_col (vars : List String) (f : Frame) (c : String)
    (hc : c ∉ f.map (·.name)) : (selected vars f).contains c = false := by
  cases h : (selected vars f).contains c
  · rfl
  · exfalso
    have hm : c ∈ selected vars f := by simpa using h
    simp only [selected, List.mem_filter] at hm
    exact hc (by simpa using hm.2)

theorem sameSel_sound (table : Parser.Table) (ops : Resolver.OpTable) (formula : String) (f : Frame)
    (h : sameSel table ops formula f = true) : SameSelection table ops formula f := by
  intro ts e m hs hp hd c
  unfold sameSel at h
  rw [hs] at h
  simp only [hp, hd, List.all_eq_true, beq_iff_eq] at h
  by_cases hc : c ∈ f.map (·.name)
  · exact h c hc
  · rw [selected_not_col _ f c hc, selected_not_col _ f c hc]

end FormulaeModel.Pipeline
