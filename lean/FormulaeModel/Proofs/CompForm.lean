import FormulaeModel.Model.Matrices
/-
One component in two steps.  `trainComp` and `newComp` first find a value (a call is evaluated,
a variable is looked up in the frame) and then build the component from that value alone; the
second step is named here, so that facts about components are proved value form by value form.
-/
namespace FormulaeModel.Design

def isCallLike : Expr → Bool
  | .call .. | .brace .. => true
  | _ => false

/-- the column a `Variable` component reads and the reference level of `y[level]` -/
def varColRef (name : String) : Expr → String × Option String
  | .subset v _ lv _ =>
    (v.lexeme, match lv with
      | .variable l => some l.lexeme
      | .literal t => some (String.ofList ((t.lexeme.toList.drop 1).dropLast))
      | _ => none)
  | .quoted t => (String.ofList ((t.lexeme.toList.drop 1).dropLast), none)
  | .variable v => (v.lexeme, none)
  | _ => (name, none)

def levelsFor (declared : Option (List Level)) (xs : List (Option Level)) : M (List Level) :=
  match declared with
  | some ls => pure ls
  | none => match sortLevels (xs.filterMap id) with
    | some ls => pure ls
    | none => .error .typeError

/-- what `evalCategoric` and `evalBox` have in common: levels, coding, coded data -/
def codeWith (declared : Option (List Level)) (c : Contrast) (full : Bool) (xs : List (Option Level)) :
    M (List Level × ContrastMatrix × Matrix) := do
  let levels ← levelsFor declared xs
  let cm ← c.code full levels
  let v ← codeRows cm levels xs
  pure (levels, cm, v)

/-- only an ordered categorical column declares its levels -/
def declaredLevels : Option (Bool × List String) → Option (List Level)
  | some (true, cats) => some (cats.map Level.s)
  | _ => none

theorem evalBox_eq (b : Box) (full : Bool) :
    evalBox b full = codeWith b.levels (b.contrast.getD (.treatment none)) full b.data := by
  simp only [evalBox, codeWith, levelsFor]
  cases b.levels <;> cases sortLevels (b.data.filterMap id) <;> rfl

theorem evalCategoric_eq (name : String) (xs : List (Option Level)) (d : Option (Bool × List String))
    (full : Bool) :
    evalCategoric name xs d full =
      if xs.any Option.isNone then .error (.unmodelled "missing value in categorical data")
      else codeWith (declaredLevels d) (.treatment none) full xs := by
  rcases d with _ | ⟨_ | _, cats⟩ <;> simp only [evalCategoric, codeWith, declaredLevels, levelsFor] <;>
    cases sortLevels (xs.filterMap id) <;> rfl

def catLeaf (st : CompState) (name : String) (r : M (List Level × ContrastMatrix × Matrix)) : M CompOut := do
  let (levels, cm, m) ← r
  pure ⟨{ st with kind := .categoric, levels, contrast := some cm }, m, some (categoricLabels name cm)⟩

/-- what a call and a `Variable` have in common -/
def valLeaf (st : CompState) (name : String) (full : Bool) : Val → M CompOut
  | .vec xs _ =>
    if st.forced then do
      let ls ← numericLevels xs
      catLeaf st name (evalCategoric name ls none full)
    else pure ⟨st, colOfEntries xs, some [name]⟩
  | .lvec xs d => catLeaf st name (evalCategoric name xs d full)
  | .box b => catLeaf st name (evalBox b full)
  | _ => .error .typeError

def offsetLeaf (isResponse forced : Bool) (out : CompOut) : M CompOut :=
  if isResponse then .error (.valueError "offset() cannot be used as a response term.")
  -- grouping factor: `kind` is overwritten with "categoric" and `eval_categoric(<Offset>)` raises
  else if forced then .error (.unmodelled "offset() as a grouping factor")
  else pure out

/-- `set_type` + `set_data` of a call component once its value is known (`n` = number of rows) -/
def compOfVal (n : Nat) (name : String) (e : Expr) (forced isResponse full : Bool) (v : Val) (ts : TS) :
    M CompOut :=
  let st : CompState := { name, expr := e, kind := .numeric, forced, tstate := ts }
  match v with
  | .vec .. | .lvec .. | .box .. => valLeaf st name full v
  | .offsetVar xs => offsetLeaf isResponse forced ⟨{ st with kind := .offset }, colOfEntries xs, some [name]⟩
  | .offsetConst q =>
    offsetLeaf isResponse forced
      ⟨{ st with kind := .offset, offsetConst := some q }, List.replicate n [some q], some [name]⟩
  | .prop ss ts c =>
    if !isResponse then .error (.valueError "'proportion()' can only be used as a response term.")
    else
      let trialsName := match e with
        | .call _ _ (.more _ _ (.last (.variable t))) _ => some t.lexeme
        | _ => none
      pure ⟨{ st with kind := .proportion, propConst := c, propTrialsName := trialsName },
            List.zipWith (fun a b => [a, b]) ss ts, none⟩
  | _ => .error (.valueError "Call result is of an unrecognized type")

theorem trainComp_call (env : Env) (name : String) (e : Expr) (forced isResponse full : Bool)
    (hc : isCallLike e = true) :
    trainComp env name e forced isResponse full =
      (posOnly (evalArg env e none) >>= fun p =>
        compOfVal env.frame.nrows name e forced isResponse full p.1 p.2) := by
  cases e with
  | call | brace =>
    refine congrArg _ (funext fun p => ?_)
    obtain ⟨v, ts⟩ := p
    cases v <;> rfl
  | _ => cases hc

/-- `set_type` + `set_data` of a `Variable` component once its column is known -/
def compOfCol (name : String) (e : Expr) (forced isResponse full : Bool) (reference : Option String)
    (c : Column) : M CompOut :=
  let st : CompState := { name, expr := e, kind := .numeric, forced, reference }
  match colVal c with
  | .vec xs isInt => valLeaf st name full (.vec xs isInt)
  | .lvec xs d =>
    match isResponse, reference with
    | true, some r => do
      -- `np.where(x == self.reference, 1, 0)`; the levels are still computed
      if xs.any Option.isNone then .error (.unmodelled "missing value in categorical data") else
      let levels ← match d with
        | some (true, cats) => pure (cats.map Level.s)
        | _ => match sortLevels (xs.filterMap id) with
          | some ls => pure ls
          | none => .error .typeError
      pure ⟨{ st with kind := .categoric, levels },
            xs.map (fun x => [some (if x == some (Level.s r) then 1 else 0)]),
            some [name ++ "[" ++ r ++ "]"]⟩
    | _, _ => valLeaf st name full (.lvec xs d)
  | _ => .error (.valueError "Variable is of an unrecognized type")

theorem compOfCol_ref (name : String) (e : Expr) (forced full : Bool) (r : String) (c : Column)
    (xs : List (Option Level)) (d : Option (Bool × List String)) (hv : colVal c = .lvec xs d) :
    compOfCol name e forced true full (some r) c =
      if xs.any Option.isNone then .error (.unmodelled "missing value in categorical data")
      else levelsFor (declaredLevels d) xs >>= fun levels =>
        pure ⟨{ name, expr := e, kind := .categoric, forced, reference := some r, levels },
              xs.map (fun x => [some (if x == some (Level.s r) then 1 else 0)]),
              some [name ++ "[" ++ r ++ "]"]⟩ := by
  rcases d with _ | ⟨_ | _, cats⟩ <;> simp only [compOfCol, hv, declaredLevels, levelsFor] <;>
    cases sortLevels (xs.filterMap id) <;> rfl

theorem trainComp_var (env : Env) (name : String) (e : Expr) (forced isResponse full : Bool)
    (hc : isCallLike e = false) :
    trainComp env name e forced isResponse full =
      (match env.frame.col? (varColRef name e).1 with
       | none => .error (.keyError (varColRef name e).1)
       | some c => compOfCol name e forced isResponse full (varColRef name e).2 c) := by
  cases e with
  | call | brace => cases hc
  | _ => rfl

/-- `eval_new_data` of a component that is not numeric, once its new value is known -/
def newOfVal (st : CompState) (mode : UnseenMode) : Val → M (Matrix × Bool)
  | .box b => newCategoric st mode b.data
  | .lvec xs _ => newCategoric st mode xs
  | .vec xs _ => do newCategoric st mode (← numericLevels xs)
  | _ => .error .typeError

/-- `eval_new_data` of a `Variable` component once its new column is known -/
def newOfCol (st : CompState) (mode : UnseenMode) (c : Column) : M (Matrix × Bool) :=
  match colVal c, st.kind with
  | .vec xs _, .numeric => pure (colOfEntries xs, false)
  | .vec xs _, _ => do newCategoric st mode (← numericLevels xs)
  | .lvec _ _, .numeric => .error (.unmodelled "non-numeric new data for a numeric variable")
  | .lvec xs _, _ => newCategoric st mode xs
  | _, _ => .error .typeError

theorem newComp_call (st : CompState) (env : Env) (mode : UnseenMode)
    (hc : isCallLike st.expr = true) :
    newComp st env mode =
      match st.kind with
      | .offset =>
        match st.offsetConst with
        | some q => pure (List.replicate env.frame.nrows [some q], false)
        | none => posOnly (evalArg env st.expr (some st.tstate)) >>= fun p =>
          match p.1 with
          | .offsetVar xs => pure (colOfEntries xs, false)
          | _ => .error .typeError
      | .proportion =>
        match st.propConst with
        | some q => pure (List.replicate env.frame.nrows [some q], false)
        | none =>
          match st.propTrialsName.bind env.frame.col? with
          | some c => match colVal c with
            | .vec xs _ => pure (colOfEntries xs, false)
            | _ => .error .typeError
          | none => .error (.keyError "trials")
      | .numeric => posOnly (evalArg env st.expr (some st.tstate)) >>= fun p =>
        match p.1 with
        | .vec xs _ => pure (colOfEntries xs, false)
        | _ => .error (.unmodelled "numeric call returned a non-vector")
      | .categoric => posOnly (evalArg env st.expr (some st.tstate)) >>= fun p => newOfVal st mode p.1 := by
  obtain ⟨name, e, kind⟩ := st
  cases e with
  | call | brace => cases kind <;> rfl
  | _ => cases hc

theorem newComp_var (st : CompState) (env : Env) (mode : UnseenMode)
    (hc : isCallLike st.expr = false) :
    newComp st env mode =
      match env.frame.col? (varColRef st.name st.expr).1 with
      | none => .error (.keyError (varColRef st.name st.expr).1)
      | some c => newOfCol st mode c := by
  obtain ⟨name, e, kind⟩ := st
  cases e with
  | call | brace => cases hc
  | _ => rfl

end FormulaeModel.Design
