import FormulaeModel.Proofs.RowsTerm
/-
The term lists of a design as `matrices.py` stacks them; predicting on selected rows of the
training frame gives the selected rows of both stacks.
-/
namespace FormulaeModel.Design
open FormulaeModel.Spec.C06 FormulaeModel.Spec.C04

theorem closeQ_refl (a : Rat) : closeQ a a = true := by
  unfold closeQ
  simp only [Rat.le_refl, if_true, Rat.sub_self, Rat.zero_mul, decide_eq_true_eq]
  grind

theorem closeE_refl (x : Entry) : closeE x x = true := by
  cases x <;> simp [closeE, closeQ_refl]

theorem zipWith_self_all {α : Type} (f : α → α → Bool) (h : ∀ x, f x x = true) (xs : List α) :
    (List.zipWith f xs xs).all id = true := by
  induction xs with
  | nil => rfl
  | cons x xs ih => simp only [List.zipWith_cons_cons, List.all_cons, id, h x, Bool.true_and]; exact ih

theorem rowsEqual_refl (a : Matrix) : rowsEqual a a = true := by
  simp only [rowsEqual, beq_self_eq_true, Bool.true_and]
  apply zipWith_self_all
  intro r
  simp only [beq_self_eq_true, Bool.true_and]
  exact zipWith_self_all _ closeE_refl r

theorem holds_of_eq (train new : Matrix) (is : List Nat) (h : new = selectRows train is) :
    holds train new is = true := by
  subst h; exact rowsEqual_refl _

/-- `design_matrices`, common part: one entry per term, `none` = the Intercept -/
def trainCommon (env : Env) (table : List (String × Expr)) (specs : List (Option TermSpec)) :
    M (List (Option TermOut)) :=
  specs.mapM (fun s => match s with
    | none => pure none
    | some s => do pure (some (← trainTerm env table s false false)))

def partMatrix (n : Nat) : Option TermOut → Matrix
  | none => onesCol n
  | some o => o.data

/-- `CommonEffectsMatrix.evaluate`: the term matrices stacked side by side -/
def commonMatrix (n : Nat) (parts : List (Option TermOut)) : Matrix := hstack (parts.map (partMatrix n)) n

/-- `CommonEffectsMatrix.evaluate_new_data` -/
def newCommonMatrix (parts : List (Option TermOut)) (env : Env) (mode : UnseenMode) : M Matrix := do
  let ms ← parts.mapM (fun p => match p with
    | none => pure (onesCol env.frame.nrows)
    | some o => do
      let (m, _) ← newTerm o.st env mode
      pure m)
  pure (hstack ms env.frame.nrows)

def trainGroups (env : Env) (table : List (String × Expr)) (specs : List GroupSpec) : M (List GroupOut) :=
  specs.mapM (trainGroup env table)

/-- `GroupEffectsMatrix.evaluate` -/
def groupMatrix (n : Nat) (gs : List GroupOut) : Matrix := hstack (gs.map (·.data)) n

/-- `GroupEffectsMatrix.evaluate_new_data` -/
def newGroupMatrix (gs : List GroupOut) (env : Env) (mode : UnseenMode) : M Matrix := do
  let ms ← gs.mapM (fun g => do
    let (m, _) ← newGroup g.st env mode
    pure m)
  pure (hstack ms env.frame.nrows)

theorem trainCommon_rows (env : Env) (hwf : env.frame.wellFormed = true) (hn : env.namesScalar = true)
    (is : List Nat) (his : ∀ i ∈ is, i < env.frame.nrows) (table : List (String × Expr))
    (specs : List (Option TermSpec)) (mode : UnseenMode) (parts : List (Option TermOut))
    (hok : ∀ s, some s ∈ specs → TermOk env table s)
    (h : trainCommon env table specs = .ok parts) :
    newCommonMatrix parts (env.rows is) mode =
      .ok (selectRows (commonMatrix env.frame.nrows parts) is) := by
  have hnr := frame_nrows_rows env.frame is his
  refine hstack_mapM_rows _ _ (partMatrix env.frame.nrows) _ _ is his hnr _ _ h ?_
  rintro (_ | s) hs p hp
  · cases hp
    exact ⟨congrArg Except.ok (hnr ▸ (selectRows_onesCol _ is his).symm), List.length_replicate⟩
  · simp only [bind_ok, pure_ok] at hp
    obtain ⟨o, ho, rfl⟩ := hp
    obtain ⟨h1, h2⟩ := trainTerm_rows env hwf hn is his table s false mode o (hok s hs) ho
    exact ⟨by simp only [h1]; rfl, h2⟩

theorem trainGroups_rows (env : Env) (hwf : env.frame.wellFormed = true) (hn : env.namesScalar = true)
    (is : List Nat) (his : ∀ i ∈ is, i < env.frame.nrows) (table : List (String × Expr))
    (specs : List GroupSpec) (mode : UnseenMode) (gs : List GroupOut)
    (hok : ∀ s ∈ specs, GroupOk env table s)
    (h : trainGroups env table specs = .ok gs) :
    newGroupMatrix gs (env.rows is) mode = .ok (selectRows (groupMatrix env.frame.nrows gs) is) := by
  refine hstack_mapM_rows _ _ (·.data) _ _ is his (frame_nrows_rows env.frame is his) _ _ h ?_
  intro s hs g hg
  obtain ⟨h1, h2⟩ := trainGroup_rows env hwf hn is his table s mode g (hok s hs) hg
  exact ⟨by rw [h1]; rfl, h2⟩

end FormulaeModel.Design
