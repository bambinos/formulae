import FormulaeModel.Model.Encoding
import FormulaeModel.Proofs.ExceptLemmas
import FormulaeModel.Proofs.Dict
/-
The stages of `Encoding.run`, read backwards from a successful result: every entry of the design
is `codeTerm` of a term of the second family, and every term of the second family is a term of the
input or an extra term built by `createExtraTerm` from one (`run_origin`).
-/
namespace FormulaeModel.Encoding
open FormulaeModel.Contrasts

theorem mapExcept_eq_mapM {α β ε : Type} (f : α → Except ε β) (xs : List α) :
    mapExcept f xs = xs.mapM f := by
  induction xs with
  | nil => rfl
  | cons x xs ih =>
    rw [List.mapM_cons, mapExcept, ih]
    cases f x with
    | error e => rfl
    | ok y => cases xs.mapM f <;> rfl

theorem mapExcept_cons_ok {α β ε : Type} {f : α → Except ε β} {x : α} {xs : List α} {ys : List β}
    (h : mapExcept f (x :: xs) = .ok ys) :
    ∃ y ys', f x = .ok y ∧ mapExcept f xs = .ok ys' ∧ ys = y :: ys' := by
  simp only [mapExcept_eq_mapM] at h ⊢
  obtain ⟨y, hy, ys', hys', rfl⟩ := (mapM_cons_ok f x xs ys).1 h
  exact ⟨y, ys', hy, hys', rfl⟩

theorem mapExcept_mem {α β ε : Type} (f : α → Except ε β) (l : List α) (ys : List β)
    (h : mapExcept f l = .ok ys) : (∀ y ∈ ys, ∃ x ∈ l, f x = .ok y) ∧ (∀ x ∈ l, ∃ y ∈ ys, f x = .ok y) :=
  have h := mapExcept_eq_mapM f l ▸ h
  ⟨mapM_mem f l ys h, mapM_mem_of f l ys h⟩

theorem mapExcept_ok {α β ε : Type} (f : α → Except ε β) (Q : β → Prop) (l : List α)
    (h : ∀ x ∈ l, ∃ y, f x = .ok y ∧ Q y) : ∃ ys, mapExcept f l = .ok ys ∧ ∀ y ∈ ys, Q y := by
  induction l with
  | nil => exact ⟨[], rfl, by simp⟩
  | cons x xs ih =>
    obtain ⟨y, hy, hq⟩ := h x (by simp)
    obtain ⟨ys, hys, hqs⟩ := ih (fun x' hx' => h x' (by simp [hx']))
    refine ⟨y :: ys, by simp [mapExcept, hy, hys], ?_⟩
    intro y' hy'
    rcases List.mem_cons.1 hy' with rfl | hy'
    · exact hq
    · exact hqs y' hy'

theorem encodingBools_ok {ts : List TermDesc} {enc : Dict (List Coding)}
    (h : encodingBools ts = .ok enc) :
    ∃ outs, mapExcept pickContrasts (encodingGroups ts) = .ok outs ∧
      enc = outs.foldl (fun r e => Dict.update r e) [] := by
  simp only [encodingBools] at h
  split at h
  · cases h
  · injection h with h; exact ⟨_, ‹_›, h.symm⟩

theorem run_ok {b : Bool} {ts : List TermDesc} {coded : List CodedTerm} (h : run b ts = .ok coded) :
    ∃ ts2 enc2, secondFamily b ts = .ok ts2 ∧ encodingBools ts2 = .ok enc2 ∧
      mapExcept (codeTerm enc2) ts2 = .ok coded := by
  simp only [run] at h
  split at h
  · cases h
  · split at h
    · cases h
    · exact ⟨_, _, ‹_›, ‹_›, h⟩

theorem codeTerm_fst_comps {enc : Dict (List Coding)} {t : TermDesc} {ct : CodedTerm}
    (h : codeTerm enc t = .ok ct) : ct.1 = t.name ∧ ct.2.map (·.1) = t.comps := by
  simp only [codeTerm] at h
  split at h
  · cases h
  all_goals
    injection h with h
    subst h
    simp [Function.comp_def]

theorem designTerms_mem (coded : List CodedTerm) : ∀ e ∈ designTerms coded, e ∈ coded := by
  intro e he
  rcases foldl_set_mem (fun t : CodedTerm => t.1) (fun t => t.2) coded [] e he with h | ⟨t, ht, rfl⟩
  · cases h
  · exact ht

theorem dedupKeepFirst_mem (cs : List Comp) : ∀ (acc : List Comp) (x : Comp),
    x ∈ dedupKeepFirst acc cs → x ∈ acc ∨ x ∈ cs := by
  induction cs with
  | nil => intro acc x h; exact Or.inl (by simpa [dedupKeepFirst] using h)
  | cons c cs ih =>
    intro acc x h
    simp only [dedupKeepFirst] at h
    split at h
    · exact (ih acc x h).imp_right (List.mem_cons_of_mem _)
    · rcases ih (acc ++ [c]) x h with h | h
      · rcases List.mem_append.1 h with h | h
        · exact Or.inl h
        · exact Or.inr (by simp [List.mem_singleton.1 h])
      · exact Or.inr (List.mem_cons_of_mem _ h)

theorem createExtraTerm_comps (b : Bool) (term : TermDesc) (enc : Coding) (t' : TermDesc)
    (h : createExtraTerm b term enc = .ok t') : ∀ c ∈ t'.comps, c ∈ term.comps := by
  cases term with
  | intercept => cases h
  | term c0 cs =>
    simp only [createExtraTerm] at h
    split at h
    · cases h
    · split at h
      · cases h
      · rename_i d ds hd
        injection h with h
        subst h
        intro c hc
        rw [TermDesc.comps, ← hd] at hc
        rcases dedupKeepFirst_mem _ _ _ hc with h | h
        · cases h
        · simp only [List.mem_append, List.mem_filterMap, List.mem_filter] at h
          rcases h with ⟨n, _, hn⟩ | ⟨h, _⟩
          · exact List.mem_of_find?_eq_some hn
          · exact h

theorem insertAt_mem {α : Type} (l : List α) : ∀ (i : Nat) (x y : α), y ∈ insertAt l i x → y ∈ l ∨ y = x := by
  induction l with
  | nil =>
    intro i x y h
    cases i <;> simp [insertAt] at h <;> exact Or.inr h
  | cons a l ih =>
    intro i x y h
    cases i with
    | zero => exact (List.mem_cons.1 h).symm
    | succ i =>
      rcases List.mem_cons.1 h with h | h
      · exact Or.inl (by simp [h])
      · exact (ih i x y h).imp_left (List.mem_cons_of_mem _)

def FromTerms (b : Bool) (ts : List TermDesc) (t2 : TermDesc) : Prop :=
  t2 ∈ ts ∨ ∃ t ∈ ts, ∃ sub, createExtraTerm b t sub = .ok t2

theorem insertExtras_from {b : Bool} {ts : List TermDesc} {term : TermDesc} (ht : term ∈ ts) :
    ∀ (subs : List Coding) (live live' : List TermDesc), (∀ t ∈ live, FromTerms b ts t) →
      insertExtras b term subs live = .ok live' → ∀ t ∈ live', FromTerms b ts t := by
  intro subs
  induction subs with
  | nil => intro live live' hl h; injection h with h; subst h; exact hl
  | cons sub subs ih =>
    intro live live' hl h
    simp only [insertExtras] at h
    split at h
    · cases h
    · rename_i extra he
      split at h
      · cases h
      · refine ih _ _ (fun t ht' => ?_) h
        rcases insertAt_mem _ _ _ _ ht' with h1 | rfl
        · exact hl t h1
        · exact Or.inr ⟨term, ht, sub, he⟩

theorem addExtraTermsLoop_from {b : Bool} {ts : List TermDesc} (enc : Dict (List Coding)) :
    ∀ (rest live live' : List TermDesc), (∀ t ∈ rest, t ∈ ts) → (∀ t ∈ live, FromTerms b ts t) →
      addExtraTermsLoop b enc rest live = .ok live' → ∀ t ∈ live', FromTerms b ts t := by
  intro rest
  induction rest with
  | nil => intro live live' _ hl h; injection h with h; subst h; exact hl
  | cons t rest ih =>
    intro live live' hts hl h
    have hts' : ∀ t' ∈ rest, t' ∈ ts := fun t' ht' => hts t' (List.mem_cons_of_mem _ ht')
    simp only [addExtraTermsLoop] at h
    split at h
    · split at h
      · split at h
        · cases h
        · exact ih _ _ hts' (insertExtras_from (hts t (by simp)) _ _ _ hl ‹_›) h
      · exact ih _ _ hts' hl h
    · exact ih _ _ hts' hl h

theorem secondFamily_from {b : Bool} {ts ts2 : List TermDesc} (h : secondFamily b ts = .ok ts2) :
    ∀ t ∈ ts2, FromTerms b ts t := by
  simp only [secondFamily] at h
  split at h
  · cases h
  · exact addExtraTermsLoop_from _ ts ts ts2 (fun _ h => h) (fun _ h => Or.inl h) h

theorem run_origin {b : Bool} {ts : List TermDesc} {coded : List CodedTerm} (h : run b ts = .ok coded) :
    ∀ ct ∈ designTerms coded, ∃ t2, FromTerms b ts t2 ∧ ct.1 = t2.name ∧ ct.2.map (·.1) = t2.comps := by
  obtain ⟨ts2, enc2, h2, _, hc⟩ := run_ok h
  intro ct hct
  obtain ⟨t2, ht2, hf⟩ := (mapExcept_mem _ _ _ hc).1 ct (designTerms_mem coded ct hct)
  exact ⟨t2, secondFamily_from h2 t2 ht2, codeTerm_fst_comps hf⟩

def NamesIn (S : List String) (ts : List TermDesc) : Prop := ∀ t ∈ ts, ∀ c ∈ t.comps, c.name ∈ S

/-- the redundancy analysis invents no component, helper terms included (for C15) -/
theorem run_names (S : List String) (b : Bool) (ts : List TermDesc) (coded : List CodedTerm)
    (hts : NamesIn S ts) (h : run b ts = .ok coded) :
    ∀ ct ∈ designTerms coded, ∀ p ∈ ct.2, p.1.name ∈ S := by
  intro ct hct p hp
  obtain ⟨t2, hfrom, _, hcomps⟩ := run_origin h ct hct
  have hp2 : p.1 ∈ t2.comps := hcomps ▸ List.mem_map.2 ⟨p, hp, rfl⟩
  rcases hfrom with ht | ⟨t, ht, sub, hsub⟩
  · exact hts t2 ht p.1 hp2
  · exact hts t ht p.1 (createExtraTerm_comps b t sub t2 hsub p.1 hp2)

end FormulaeModel.Encoding
