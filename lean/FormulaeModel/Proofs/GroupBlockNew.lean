import FormulaeModel.Proofs.GroupBlockGroup
import FormulaeModel.Proofs.ShapeTerm
/-
`newGroup` on the state remembered by `trainGroup`.  A row of the new indicator matrix is zero when
a grouping value of the row was not seen in training; when some row is zero one column is appended
that marks exactly those rows (`widenJ`); `error` mode raises instead.
-/
namespace FormulaeModel.Design

def newFactorVal (st : CompState) (env : Env) : M Val :=
  if isCallLike st.expr then (posOnly (evalArg env st.expr (some st.tstate))).map (·.1)
  else match env.frame.col? (varColRef st.name st.expr).1 with
    | some c => pure (colVal c)
    | none => .error (.keyError (varColRef st.name st.expr).1)

theorem newOfVal_of_levels (st : CompState) (mode : UnseenMode) (v : Val) (xs : List (Option Level))
    (hxs : valLevels v = .ok xs) : newOfVal st mode v = newCategoric st mode xs := by
  cases v
  case vec ys _ =>
    change numericLevels ys = _ at hxs
    change numericLevels ys >>= newCategoric st mode = _
    rw [hxs]; rfl
  case lvec ys _ => cases hxs; rfl
  case box b => cases hxs; rfl
  all_goals cases hxs

theorem newComp_factor (st : CompState) (env : Env) (mode : UnseenMode) (v : Val)
    (xs : List (Option Level)) (hk : st.kind = .categoric) (hv : newFactorVal st env = .ok v)
    (hxs : valLevels v = .ok xs) : newComp st env mode = newCategoric st mode xs := by
  unfold newFactorVal at hv
  split at hv
  · rename_i hc
    simp only [newComp_call st env mode hc, hk]
    cases hp : posOnly (evalArg env st.expr (some st.tstate)) with
    | error e => rw [hp] at hv; cases hv
    | ok p =>
      rw [hp] at hv
      cases hv
      exact newOfVal_of_levels st mode _ xs hxs
  · rename_i hc
    rw [newComp_var st env mode (by simpa using hc)]
    split at hv
    · rename_i c hcol
      cases hv
      rw [hcol]
      obtain ⟨_, k, cells⟩ := c
      simp only [newOfCol, hk]
      cases k
      case numeric =>
        change numericLevels _ = _ at hxs
        change numericLevels _ >>= newCategoric st mode = _
        rw [hxs]; rfl
      all_goals cases hxs; rfl
    · cases hv

theorem codeRows_of_seen (levels : List Level) (xs : List (Option Level))
    (h : xs.any (isUnseen levels) = false) :
    codeRows (treatmentFull levels) levels xs = .ok (xs.map (indRow levels)) := by
  induction xs with
  | nil => rfl
  | cons x xs ih =>
    simp only [List.any_cons, Bool.or_eq_false_iff] at h
    have ih' := ih h.2
    unfold codeRows at ih' ⊢
    rw [List.mapM_cons, ih']
    cases hx : levelIndex levels x with
    | none => rw [(levelIndex_none_iff levels x).1 hx] at h; simp at h
    | some i =>
      have hi := levelIndex_lt levels x i hx
      cases x with
      | none => simp [levelIndex] at hx
      | some l =>
        simp only [levelIndex, Option.bind_some] at hx
        simp only [hx, List.map_cons, indRow, levelIndex, Option.bind_some, treatmentFull_row levels i hi]
        rfl

theorem newCategoric_treatment (st : CompState) (hc : st.contrast = some (treatmentFull st.levels))
    (mode : UnseenMode) (xs : List (Option Level)) :
    newCategoric st mode xs =
      if xs.any (isUnseen st.levels) && mode == .error then
        .error (.valueError "levels not present in the original data set")
      else .ok (xs.map (indRow st.levels), xs.any (isUnseen st.levels) && mode == .warning) := by
  cases hu : xs.any (isUnseen st.levels) with
  | false =>
    simp only [newCategoric, hc, hu, Bool.not_false, if_true, Bool.false_and, Bool.false_eq_true, if_false,
      codeRows_of_seen st.levels xs hu]
    rfl
  | true =>
    -- `error` raises (closed by `rfl`); in the other modes the rows are compared value by value:
    -- the row `newCategoric` builds for `x` is `indRow st.levels x`
    cases mode <;>
      simp only [newCategoric, hc, hu, Bool.not_true, Bool.false_eq_true, if_false, Bool.true_and,
        beq_self_eq_true, if_true, show (UnseenMode.warning == UnseenMode.error) = false from rfl,
        show (UnseenMode.silent == UnseenMode.error) = false from rfl] <;> try rfl
    all_goals (
      simp only [pure, Except.pure, Except.ok.injEq, Prod.mk.injEq, and_true]
      apply List.map_congr_left
      intro x _
      simp only [indRow, levelIndex, treatmentFull]
      cases hx : x.bind (fun l => indexOf? l st.levels) with
      | none => simp [zeroE]
      | some i =>
        have hi := levelIndex_lt st.levels x i hx
        simp only
        exact treatmentFull_row st.levels i hi)

def newFactorColumns (comps : List CompState) (env : Env) : M (List (List (Option Level))) :=
  comps.mapM (fun c => do valLevels (← newFactorVal c env))

structure FactorState (comps : List CompState) : Prop where
  kind : ∀ c ∈ comps, c.kind = .categoric
  coding : ∀ c ∈ comps, c.contrast = some (treatmentFull c.levels)

theorem mapM_newComp_factor (comps : List CompState) (hS : FactorState comps) (env : Env)
    (mode : UnseenMode) (cols : List (List (Option Level)))
    (hcols : newFactorColumns comps env = .ok cols) :
    comps.mapM (fun c => newComp c env mode) =
      if anyUnseen comps cols && mode == .error then
        .error (.valueError "levels not present in the original data set")
      else .ok (List.zipWith (fun c xs =>
        (xs.map (indRow c.levels), xs.any (isUnseen c.levels) && mode == .warning)) comps cols) := by
  induction comps generalizing cols with
  | nil =>
    simp only [newFactorColumns, List.mapM_nil, pure_ok] at hcols
    subst hcols
    simp [anyUnseen, pure, Except.pure]
  | cons c comps ih =>
    simp only [newFactorColumns, List.mapM_cons, bind_ok, pure_ok] at hcols
    obtain ⟨xs, ⟨v, hv, hxs⟩, cols', hcols', rfl⟩ := hcols
    have hS' : FactorState comps :=
      ⟨fun c' hc' => hS.kind c' (by simp [hc']), fun c' hc' => hS.coding c' (by simp [hc'])⟩
    have ih' := ih hS' cols' hcols'
    rw [List.mapM_cons, newComp_factor c env mode v xs (hS.kind c (by simp)) hv hxs,
      newCategoric_treatment c (hS.coding c (by simp)) mode xs, ih']
    simp only [anyUnseen, List.zip_cons_cons, List.any_cons, List.zipWith_cons_cons]
    -- what is left is Boolean: this component has an unseen value or not, the mode is `error` or
    -- not, some other component has an unseen value or not
    rcases Bool.eq_false_or_eq_true (xs.any (isUnseen c.levels)) with hu | hu <;>
      rcases Bool.eq_false_or_eq_true (mode == UnseenMode.error) with hm | hm <;>
      rcases Bool.eq_false_or_eq_true
        ((comps.zip cols').any (fun p => p.2.any (isUnseen p.1.levels))) with hu' | hu' <;>
      simp [hu, hm, hu', bind, Except.bind, pure, Except.pure]

theorem newFactorVal_plain (st : CompState) (env : Env) (hc : isCallLike st.expr = false) :
    newFactorVal st env = factorVal env st.name st.expr := by
  simp only [newFactorVal, factorVal, hc, Bool.false_eq_true, if_false]
  cases env.frame.col? (varColRef st.name st.expr).1 <;> rfl

theorem zipWith_any_flag (comps : List CompState) (cols : List (List (Option Level))) (b : Bool) :
    (List.zipWith (fun (c : CompState) (xs : List (Option Level)) =>
        (xs.map (indRow c.levels), xs.any (isUnseen c.levels) && b)) comps cols).any (·.2) =
      (anyUnseen comps cols && b) := by
  induction comps generalizing cols with
  | nil => simp [anyUnseen]
  | cons c comps ih =>
    cases cols with
    | nil => simp [anyUnseen]
    | cons xs cols =>
      simp only [List.zipWith_cons_cons, List.any_cons, ih cols]
      simp only [anyUnseen, List.zip_cons_cons, List.any_cons]
      generalize xs.any (isUnseen c.levels) = a
      generalize (comps.zip cols).any (fun p => p.2.any (isUnseen p.1.levels)) = d
      cases a <;> cases d <;> cases b <;> rfl

theorem zipWith_fst (comps : List CompState) (cols : List (List (Option Level))) (b : Bool) :
    (List.zipWith (fun (c : CompState) (xs : List (Option Level)) =>
        (xs.map (indRow c.levels), xs.any (isUnseen c.levels) && b)) comps cols).map (·.1) =
      List.zipWith (fun (c : CompState) (xs : List (Option Level)) => xs.map (indRow c.levels)) comps cols := by
  induction comps generalizing cols with
  | nil => simp
  | cons c comps ih =>
    cases cols with
    | nil => simp
    | cons xs cols => simp [ih cols]

theorem newTerm_factor (t : TermState) (hS : FactorState t.comps) (env : Env) (mode : UnseenMode)
    (cols : List (List (Option Level))) (hcols : newFactorColumns t.comps env = .ok cols) :
    newTerm t env mode =
      if anyUnseen t.comps cols && mode == .error then
        .error (.valueError "levels not present in the original data set")
      else .ok (newFactorMatrix t.comps cols, anyUnseen t.comps cols && mode == .warning) := by
  unfold newTerm
  rw [mapM_newComp_factor t.comps hS env mode cols hcols]
  split
  · rfl
  · simp only [ok_bind, pure, Except.pure, zipWith_any_flag, zipWith_fst, newFactorMatrix]

def newEffect (g : GroupState) (env : Env) (mode : UnseenMode) : M (Matrix × Bool) :=
  match g.expr with
  | none => pure (onesCol env.frame.nrows, false)
  | some t => newTerm t env mode

theorem widenJ_length (ji : Matrix) : (widenJ ji).length = ji.length := by
  unfold widenJ
  split <;> simp

theorem newGroup_eq (g : GroupState) (env : Env) (mode : UnseenMode) :
    newGroup g env mode = (do
      let p ← newEffect g env mode
      let q ← newTerm g.factor env mode
      pure (khatriRao (widenJ q.1) p.1, p.2 || q.2)) := by
  unfold newGroup newEffect
  cases g.expr <;> rfl

theorem newGroup_error (g : GroupState) (hS : FactorState g.factor.comps) (env : Env)
    (cols : List (List (Option Level))) (hcols : newFactorColumns g.factor.comps env = .ok cols)
    (p : Matrix × Bool) (hp : newEffect g env .error = .ok p)
    (hu : anyUnseen g.factor.comps cols = true) :
    newGroup g env .error = .error (.valueError "levels not present in the original data set") := by
  rw [newGroup_eq, hp, newTerm_factor g.factor hS env .error cols hcols, hu]
  rfl

/-- the appended slot `G` when some grouping value of the row is unseen -/
def newSlot (G : Nat) : Option (List (Nat × Nat)) → Nat
  | some ps => cellIndex 0 ps
  | none => G

theorem widenJ_row (comps : List CompState) (cols : List (List (Option Level)))
    (hlen : comps.length = cols.length)
    (hz : (newFactorMatrix comps cols).any isZeroRow = true) (r : Nat)
    (hr : r < (newFactorMatrix comps cols).length) :
    (widenJ (newFactorMatrix comps cols))[r]'(by rw [widenJ_length]; exact hr) =
      unitE (cellCount 1 (comps.map (·.levels.length)) + 1)
        (newSlot (cellCount 1 (comps.map (·.levels.length))) (rowCell (comps.map (·.levels)) cols r)) := by
  simp only [widenJ, hz, if_true, List.getElem_map]
  rw [isZeroRow_newFactorMatrix _ _ r hr, newFactorMatrix_row_cell _ _ hlen r hr]
  cases hps : rowCell (comps.map (·.levels)) cols r with
  | none => exact zeroE_append_one _
  | some ps => exact unitE_append_zero _ _ (rowCell_some_lt _ _ hlen r ps hps).2.2

theorem newGroup_block (g : GroupState) (hS : FactorState g.factor.comps) (env : Env) (mode : UnseenMode)
    (cols : List (List (Option Level))) (hcols : newFactorColumns g.factor.comps env = .ok cols)
    (M : Matrix) (w : Bool) (h : newGroup g env mode = .ok (M, w)) :
    ∃ X w1, newEffect g env mode = .ok (X, w1) ∧
      (anyUnseen g.factor.comps cols && mode == .error) = false ∧
      w = (w1 || (anyUnseen g.factor.comps cols && mode == .warning)) ∧
      ((newFactorMatrix g.factor.comps cols).any isZeroRow = true ↔
        ∃ r, r < (newFactorMatrix g.factor.comps cols).length ∧
          rowCell (g.factor.comps.map (·.levels)) cols r = none) ∧
      ∀ r (hr : r < M.length), ∃ x, X[r]? = some x ∧ r < (newFactorMatrix g.factor.comps cols).length ∧
        ((newFactorMatrix g.factor.comps cols).any isZeroRow = false →
          ∃ ps, rowCell (g.factor.comps.map (·.levels)) cols r = some ps ∧
            cellIndex 0 ps < cellCount 1 (g.factor.comps.map (·.levels.length)) ∧
            M[r] = rowProd (unitE (cellCount 1 (g.factor.comps.map (·.levels.length))) (cellIndex 0 ps)) x) ∧
        ((newFactorMatrix g.factor.comps cols).any isZeroRow = true →
          M[r] = rowProd (unitE (cellCount 1 (g.factor.comps.map (·.levels.length)) + 1)
            (newSlot (cellCount 1 (g.factor.comps.map (·.levels.length)))
              (rowCell (g.factor.comps.map (·.levels)) cols r))) x) := by
  have hlenc := (mapM_ok_get _ _ _ hcols).1.symm
  rw [newGroup_eq, newTerm_factor g.factor hS env mode cols hcols] at h
  simp only [bind_ok] at h
  obtain ⟨⟨X, w1⟩, hX, q, hq, h⟩ := h
  split at hq
  · cases hq
  rename_i hne
  cases hq
  simp only [pure_ok, Prod.mk.injEq] at h
  obtain ⟨rfl, rfl⟩ := h
  refine ⟨X, w1, hX, by simpa using hne, rfl, newFactorMatrix_any_zero _ _, ?_⟩
  intro r hr
  have hr' := hr
  simp only [khatriRao, interactionMatrix_length, widenJ_length] at hr'
  have hrX : r < X.length := by omega
  have hrJ : r < (newFactorMatrix g.factor.comps cols).length := by omega
  have hrA : r < (widenJ (newFactorMatrix g.factor.comps cols)).length := by
    rw [widenJ_length]; exact hrJ
  refine ⟨X[r], List.getElem?_eq_getElem hrX, hrJ, ?_, ?_⟩
  · intro hfalse
    obtain ⟨ps, h1, _, _, h4, h5⟩ := newFactorMatrix_row_seen _ _ hlenc r hrJ
      (by simpa using List.any_eq_false.1 hfalse _ (List.getElem_mem hrJ))
    refine ⟨ps, h1, h4, ?_⟩
    simp only [khatriRao]
    rw [interactionMatrix_row _ X r hrA hrX, ← h5]
    simp only [widenJ, hfalse, Bool.false_eq_true, if_false]
  · intro htrue
    simp only [khatriRao]
    rw [interactionMatrix_row _ X r hrA hrX, widenJ_row _ _ hlenc htrue r hrJ]

end FormulaeModel.Design
