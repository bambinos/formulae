import FormulaeModel.Proofs.TermsOps
/-
C02: the invariant of plain values — every term is a duplicate-free component list without
numeric-named components — is preserved by the closed-form operators.
-/
namespace FormulaeModel.Terms
open FormulaeModel.Spec.C02

/-- as `Term.__init__` leaves a term, and as `*`, `:`, `/` accept one on the right -/
def GoodT (t : STerm) : Prop := t.Nodup ∧ NonNum t
def Good (p : PV) : Prop := ∀ t ∈ p.list, GoodT t

theorem goodT_dedup {l : List Atom} (h : NonNum l) : GoodT (dedup l) :=
  ⟨nodup_dedup l, fun a ha => h a (mem_dedup.1 ha)⟩

theorem nonNum_append {x y : List Atom} (hx : NonNum x) (hy : NonNum y) : NonNum (x ++ y) := by
  intro a ha
  rcases List.mem_append.1 ha with h | h
  · exact hx a h
  · exact hy a h

theorem nonNum_flatten {M : List STerm} (h : ∀ t ∈ M, NonNum t) : NonNum M.flatten := by
  intro a ha
  obtain ⟨t, ht, hat⟩ := List.mem_flatten.1 ha
  exact h t ht a hat

theorem goodT_inter {x y : STerm} (hx : GoodT x) (hy : GoodT y) : GoodT (dedup (x ++ y)) :=
  goodT_dedup (nonNum_append hx.2 hy.2)

theorem Good.nonNum {p : PV} (h : Good p) : ∀ t ∈ p.list, NonNum t := fun t ht => (h t ht).2

theorem mem_removeFirst {α : Type} [BEq α] [LawfulBEq α] {x y : α} {l : List α}
    (h : y ∈ removeFirst x l) : y ∈ l := (removeFirst_sublist x l).subset h

theorem mem_remL {α : Type} [BEq α] [LawfulBEq α] {y : α} {A B : List α}
    (h : y ∈ remL A B) : y ∈ A := (remL_sublist A B).subset h

theorem mem_pairs {t : STerm} {M O : List STerm} :
    t ∈ pairs M O ↔ ∃ x ∈ M, ∃ y ∈ O, t = dedup (x ++ y) := by
  simp [pairs, eq_comm]

theorem pairs_singleton_left (a : STerm) (O : List STerm) :
    pairs [a] O = O.map (fun y => dedup (a ++ y)) := by
  simp [pairs]

theorem pairs_singleton_right (M : List STerm) (b : STerm) :
    pairs M [b] = M.map (fun x => dedup (x ++ b)) := by
  simp [pairs, ← List.map_eq_flatMap]

/-! The term lists of the closed forms: a `Term` behaves as the model of its one term, except that
`Model(*terms)` keeps the duplicates `*` and `/` may build from two `Term`s. -/

theorem padd_list (p q : PV) : (padd p q).list = addL p.list q.list := by
  cases p <;> cases q <;> try rfl
  rename_i a b
  by_cases hab : a = b
  · simp [padd, PV.list, addL, hab]
  · simp [padd, PV.list, addL, hab, Ne.symm hab]

theorem psub_list (p q : PV) : (psub p q).list = remL p.list q.list := by
  cases p <;> cases q <;> try rfl
  · rename_i a b
    by_cases hab : a = b <;> simp [psub, PV.list, remL, removeFirst, hab]
  · rename_i a O
    by_cases h : a ∈ O <;> simp [psub, PV.list, remL_singleton, h]

/-- `a : a` is `a` because a `Term` holds no component twice -/
theorem pmatmul_list {p : PV} (hp : Good p) (q : PV) :
    (pmatmul p q).list = pairs p.list q.list := by
  cases p with
  | t a =>
    cases q with
    | t b =>
      by_cases hab : a = b
      · subst hab
        simp [pmatmul, PV.list, pairs, dedup_append_self (hp a (by simp [PV.list])).1]
      · simp [pmatmul, PV.list, pairs, hab]
    | m O => exact (pairs_singleton_left a O).symm
  | m M =>
    cases q with
    | t b => exact (pairs_singleton_right M b).symm
    | m O => rfl

theorem pmul_mem {p q : PV} {t : STerm} (h : t ∈ (pmul p q).list) :
    t ∈ p.list ∨ t ∈ q.list ∨ t ∈ pairs p.list q.list := by
  cases p <;> cases q <;> simp only [pmul, PV.list] at h ⊢
  · rename_i a b
    by_cases hab : a = b <;> simp_all [pairs]
  · rename_i a O
    rw [← pairs_singleton_left] at h
    simpa [mem_addL, or_assoc] using h
  · rename_i M b
    rw [← pairs_singleton_right] at h
    simpa [mem_addL, or_assoc] using h
  · rename_i M O
    by_cases hs : sameSet M O = true
    · simp_all
    · simpa [hs, mem_addL, or_assoc] using h

theorem pdiv_mem {p q : PV} {t : STerm} (h : t ∈ (pdiv p q).list) :
    t ∈ p.list ∨ t ∈ q.list.map (fun y => dedup (p.list.flatten ++ y)) := by
  cases p <;> cases q <;> simp only [pdiv, PV.list] at h ⊢
  · rename_i a b
    by_cases hab : a = b <;> simp_all
  all_goals simpa [mem_addL] using h

theorem good_padd {p q : PV} (hp : Good p) (hq : Good q) : Good (padd p q) := by
  intro t ht
  rw [padd_list, mem_addL] at ht
  exact ht.elim (hp t) (hq t)

theorem good_psub {p q : PV} (hp : Good p) : Good (psub p q) :=
  fun t ht => hp t (mem_remL (psub_list p q ▸ ht))

theorem good_pmatmul {p q : PV} (hp : Good p) (hq : Good q) : Good (pmatmul p q) := by
  intro t ht
  rw [pmatmul_list hp] at ht
  obtain ⟨x, hx, y, hy, rfl⟩ := mem_pairs.1 ht
  exact goodT_inter (hp _ hx) (hq _ hy)

theorem good_pmul {p q : PV} (hp : Good p) (hq : Good q) : Good (pmul p q) := by
  intro t ht
  rcases pmul_mem ht with h | h | h
  · exact hp t h
  · exact hq t h
  · obtain ⟨x, hx, y, hy, rfl⟩ := mem_pairs.1 h
    exact goodT_inter (hp _ hx) (hq _ hy)

theorem good_pdiv {p q : PV} (hp : Good p) (hq : Good q) : Good (pdiv p q) := by
  intro t ht
  rcases pdiv_mem ht with h | h
  · exact hp t h
  · obtain ⟨y, hy, rfl⟩ := List.mem_map.1 h
    exact goodT_dedup (nonNum_append (nonNum_flatten fun t ht => (hp t ht).2) (hq y hy).2)

theorem mem_combsUpTo {α : Type} {M : List α} {n : Nat} {ts : List α}
    (h : ts ∈ combsUpTo M n) : ∀ x ∈ ts, x ∈ M := by
  simp only [combsUpTo, List.mem_flatMap] at h
  obtain ⟨i, _, hi⟩ := h
  split at hi
  · exact combinations_mem_sub hi
  · simp at hi

theorem good_ppow {p : PV} (hp : Good p) (n : Nat) : Good (ppow p n) := by
  intro t ht
  cases p with
  | t a => exact hp _ ht
  | m M =>
    simp only [ppow, PV.list, mem_addL, List.mem_map] at ht
    rcases ht with h | ⟨ts, hts, rfl⟩
    · exact hp _ h
    · exact goodT_dedup (nonNum_flatten (fun t ht => (hp t (mem_combsUpTo hts t ht)).2))

end FormulaeModel.Terms
