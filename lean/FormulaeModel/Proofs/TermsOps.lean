import FormulaeModel.Proofs.TermsList
/-
C02, layer 1: the operator overloads of terms.py on *plain* values (a `Term`, or a `Model` that
holds only `Term`s, no group-specific terms, no response) computed in closed form.

`PV` is the shape of a plain value, `padd … ppow` are the list functions the overloads compute,
and `add_plain … pow_plain` say `op p.toObj q.toObj = .ok (pop p q).toObj`.
-/
namespace FormulaeModel.Terms
open FormulaeModel.Spec.C02

theorem mapE_ok {α β : Type} (f : α → Except Err β) (g : α → β) (l : List α)
    (h : ∀ x ∈ l, f x = .ok (g x)) : mapE f l = .ok (l.map g) := by
  induction l with
  | nil => rfl
  | cons a l ih =>
    simp only [mapE, h a (by simp), ih (fun x hx => h x (by simp [hx])), bind, Except.bind, pure,
      Except.pure, List.map_cons]

theorem addTerm_c (m : ModelV) (x : CTerm) (hx : x ≠ .negIntercept) :
    addTerm m (.c x) = .ok { m with common := addL m.common [x] } := by
  cases x with
  | negIntercept => exact absurd rfl hx
  | intercept =>
    simp only [addTerm, addL, pure, Except.pure]
    split <;> rfl
  | term cs =>
    simp only [addTerm, addL, pure, Except.pure]
    split <;> rfl

theorem addTerm_g (m : ModelV) (x : GTerm) :
    addTerm m (.g x) = .ok { m with group := addL m.group [x] } := by
  simp only [addTerm, addL, pure, Except.pure]
  split <;> rfl

theorem addL_append_right {α : Type} [BEq α] (A B C : List α) :
    addL A (B ++ C) = addL (addL A B) C := by
  induction B generalizing A with
  | nil => rfl
  | cons b B ih => simp only [List.cons_append, addL, ih]

theorem addTerms_c (m : ModelV) (cs : List CTerm) (h : ∀ c ∈ cs, c ≠ .negIntercept) :
    addTerms m (cs.map .c) = .ok { m with common := addL m.common cs } := by
  induction cs generalizing m with
  | nil => rfl
  | cons c cs ih =>
    simp only [List.map_cons, addTerms, addTerm_c m c (h c (by simp)), bind, Except.bind]
    rw [ih _ (fun x hx => h x (by simp [hx]))]
    rfl

theorem addTerms_g (m : ModelV) (gs : List GTerm) :
    addTerms m (gs.map .g) = .ok { m with group := addL m.group gs } := by
  induction gs generalizing m with
  | nil => rfl
  | cons c cs ih =>
    simp only [List.map_cons, addTerms, addTerm_g, bind, Except.bind]
    rw [ih]
    rfl

theorem addTerms_append (m : ModelV) (a b : List Obj) :
    addTerms m (a ++ b) = (addTerms m a).bind (fun m' => addTerms m' b) := by
  induction a generalizing m with
  | nil => rfl
  | cons x a ih =>
    simp only [List.cons_append, addTerms, bind, Except.bind]
    cases addTerm m x with
    | error e => rfl
    | ok m' => exact ih m'

/-- `Model.__add__(Model)`: every term of `o` that is missing is appended, in order. -/
theorem addModel_eq (m o : ModelV) (h : ∀ c ∈ o.common, c ≠ .negIntercept) :
    addModel m o = .ok { common := addL m.common o.common, group := addL m.group o.group,
                         resp := m.resp } := by
  simp only [addModel, terms, addTerms_append, addTerms_c m _ h, Except.bind, addTerms_g]

section inj
variable {α β : Type} [BEq α] [LawfulBEq α] [BEq β] [LawfulBEq β] (f : α → β)
  (hf : ∀ x y, f x = f y → x = y)
include hf

theorem contains_map_inj (A : List α) (x : α) : (A.map f).contains (f x) = A.contains x := by
  rw [Bool.eq_iff_iff]
  simp only [List.contains_iff_mem, List.mem_map]
  constructor
  · rintro ⟨y, hy, e⟩; exact hf _ _ e ▸ hy
  · intro h; exact ⟨x, h, rfl⟩

theorem addL_map_inj (A B : List α) : addL (A.map f) (B.map f) = (addL A B).map f := by
  induction B generalizing A with
  | nil => rfl
  | cons b B ih =>
    simp only [List.map_cons, addL, contains_map_inj f hf]
    rw [← ih]
    split <;> simp

theorem removeFirst_map_inj (A : List α) (x : α) :
    removeFirst (f x) (A.map f) = (removeFirst x A).map f := by
  induction A with
  | nil => rfl
  | cons a A ih =>
    simp only [List.map_cons, removeFirst]
    by_cases h : a = x
    · subst h; simp
    · have h1 : (a == x) = false := by simpa using h
      have h2 : (f a == f x) = false := by
        have : f a ≠ f x := fun e => h (hf _ _ e)
        simpa using this
      simp [h1, h2, ih]

theorem remL_map_inj (A B : List α) : remL (A.map f) (B.map f) = (remL A B).map f := by
  unfold remL
  induction B generalizing A with
  | nil => rfl
  | cons b B ih =>
    simp only [List.map_cons, List.foldl_cons, removeFirst_map_inj f hf, ih]

theorem sameSet_map_inj (A B : List α) : sameSet (A.map f) (B.map f) = sameSet A B := by
  unfold sameSet
  simp only [List.all_map, Function.comp_def, contains_map_inj f hf]

end inj

theorem term_inj : ∀ x y : List Atom, CTerm.term x = CTerm.term y → x = y := by
  intro x y h; injection h

theorem combinations_map {α β : Type} (f : α → β) (l : List α) (k : Nat) :
    combinations (l.map f) k = (combinations l k).map (List.map f) := by
  induction l generalizing k with
  | nil => cases k <;> simp [combinations]
  | cons a l ih =>
    cases k with
    | zero => simp [combinations]
    | succ k => simp [combinations, ih, Function.comp_def]

theorem combinations_mem_sub {α : Type} {l : List α} {k : Nat} {ts : List α}
    (h : ts ∈ combinations l k) : ∀ x ∈ ts, x ∈ l := by
  induction l generalizing k ts with
  | nil =>
    cases k with
    | zero => simp [combinations] at h; subst h; simp
    | succ k => simp [combinations] at h
  | cons a l ih =>
    cases k with
    | zero => simp [combinations] at h; subst h; simp
    | succ k =>
      simp only [combinations, List.mem_append, List.mem_map] at h
      rcases h with ⟨ts', h', rfl⟩ | h
      · intro x hx
        simp only [List.mem_cons] at hx
        rcases hx with rfl | hx
        · simp
        · exact List.mem_cons_of_mem _ (ih h' x hx)
      · intro x hx; exact List.mem_cons_of_mem _ (ih h x hx)

theorem combinations_short {α : Type} (l : List α) (k : Nat) (h : l.length < k) :
    combinations l k = [] := by
  induction l generalizing k with
  | nil => cases k with
    | zero => simp at h
    | succ k => rfl
  | cons a l ih =>
    cases k with
    | zero => simp at h
    | succ k =>
      simp only [List.length_cons] at h
      simp [combinations, ih k (by omega), ih (k + 1) (by omega)]

inductive PV
  | t (a : STerm)
  | m (L : List STerm)

def plainM (L : List STerm) : ModelV := modelOfC (L.map .term)

def PV.toObj : PV → Obj
  | .t a => .c (.term a)
  | .m L => .model (plainM L)

def PV.list : PV → List STerm
  | .t a => [a]
  | .m L => L

theorem plainM_common (L : List STerm) : (plainM L).common = L.map .term := rfl
theorem plainM_group (L : List STerm) : (plainM L).group = [] := rfl
theorem plainM_resp (L : List STerm) : (plainM L).resp = none := rfl

theorem ne_neg_of_map_term {L : List STerm} : ∀ c ∈ L.map CTerm.term, c ≠ .negIntercept := by
  intro c hc e; subst e; simp at hc

theorem addModel_plain (A B : List STerm) :
    addModel (plainM A) (plainM B) = .ok (plainM (addL A B)) := by
  rw [addModel_eq _ _ ne_neg_of_map_term]
  simp only [plainM_common, plainM_group, plainM_resp, addL_map_inj _ term_inj]
  rfl

theorem addTerm_plain (A : List STerm) (b : STerm) :
    addTerm (plainM A) (.c (.term b)) = .ok (plainM (addL A [b])) := by
  rw [addTerm_c _ _ (by simp)]
  have := addL_map_inj _ term_inj A [b]
  simp only [List.map_cons, List.map_nil] at this
  simp only [plainM_common, this]
  rfl

theorem mapE_term (f : CTerm → Except Err CTerm) (g : STerm → STerm)
    (h : ∀ y, f (.term y) = .ok (.term (g y))) (L : List STerm) :
    mapE f (L.map .term) = .ok ((L.map g).map .term) := by
  induction L with
  | nil => rfl
  | cons y L ih => simp only [List.map_cons, mapE, h, ih, bind, Except.bind, pure, Except.pure]

theorem mapE_inter_left (a : STerm) (L : List STerm) :
    mapE (fun t => inter (.term a) t) (L.map .term) =
      .ok ((L.map (fun y => dedup (a ++ y))).map .term) :=
  mapE_term (fun t => inter (.term a) t) (fun y => dedup (a ++ y)) (fun _ => rfl) L

theorem mapE_inter_right (b : STerm) (L : List STerm) :
    mapE (fun t => inter t (.term b)) (L.map .term) =
      .ok ((L.map (fun x => dedup (x ++ b))).map .term) :=
  mapE_term (fun t => inter t (.term b)) (fun x => dedup (x ++ b)) (fun _ => rfl) L

/-- in the order of `Model.__matmul__`: left list outermost -/
def pairs (M O : List STerm) : List STerm := M.flatMap (fun x => O.map (fun y => dedup (x ++ y)))

theorem mapE_inter_pairs (M O : List STerm) :
    mapE (fun p => inter p.1 p.2)
        ((M.map CTerm.term).flatMap (fun x => (O.map CTerm.term).map (fun y => (x, y)))) =
      .ok ((pairs M O).map .term) := by
  rw [mapE_ok _ (fun p => match p with
      | (.term x, .term y) => .term (dedup (x ++ y)) | (c, _) => c)]
  · simp [pairs, List.map_flatMap, List.flatMap_map, List.map_map, Function.comp_def]
  · intro p hp
    simp only [List.mem_flatMap, List.mem_map] at hp
    obtain ⟨x, ⟨x', _, rfl⟩, y, ⟨y', _, rfl⟩, rfl⟩ := hp
    rfl

theorem commonComponents_plain (M : List STerm) : commonComponents (plainM M) = M.flatten := by
  simp only [commonComponents, plainM_common]
  induction M with
  | nil => rfl
  | cons a M ih => simp [ih]

theorem hashable_plain (M : List STerm) : hashable (plainM M) = true := by
  simp [hashable, plainM_common, plainM_group]

theorem modelEq_plain (M O : List STerm) :
    modelEq (plainM M) (plainM O) = .ok (sameSet M O) := by
  simp only [modelEq, hashable_plain, Bool.and_self, if_true, plainM_common, plainM_group,
    plainM_resp, sameSet_map_inj _ term_inj, pure, Except.pure]
  simp [sameSet]

def padd : PV → PV → PV
  | .t a, .t b => if a == b then .t a else .m [a, b]
  | .t a, .m O => .m (addL [a] O)
  | .m M, .t b => .m (addL M [b])
  | .m M, .m O => .m (addL M O)

def psub : PV → PV → PV
  | .t a, .t b => if a == b then .m [] else .t a
  | .t a, .m O => if O.contains a then .m [] else .t a
  | .m M, .t b => .m (removeFirst b M)
  | .m M, .m O => .m (remL M O)

def pmatmul : PV → PV → PV
  | .t a, .t b => if a == b then .t a else .t (dedup (a ++ b))
  | .t a, .m O => .m (O.map (fun y => dedup (a ++ y)))
  | .m M, .t b => .m (M.map (fun x => dedup (x ++ b)))
  | .m M, .m O => .m (pairs M O)

def pmul : PV → PV → PV
  | .t a, .t b => if a == b then .t a else .m [a, b, dedup (a ++ b)]
  | .t a, .m O => .m (addL (a :: O) (O.map (fun y => dedup (a ++ y))))
  | .m M, .t b => .m (addL (M ++ [b]) (M.map (fun x => dedup (x ++ b))))
  | .m M, .m O => if sameSet M O then .m M else .m (addL (M ++ O) (pairs M O))

def pdiv : PV → PV → PV
  | .t a, .t b => if a == b then .t a else .m [a, dedup (a ++ b)]
  | .t a, .m O => .m (addL [a] (O.map (fun y => dedup (a ++ y))))
  | .m M, .t b => .m (addL M [dedup (M.flatten ++ b)])
  | .m M, .m O => .m (addL M (O.map (fun y => dedup (M.flatten ++ y))))

/-- all combinations of 2 … n elements, by size (`itertools.combinations` for each size) -/
def combsUpTo {α : Type} (M : List α) (n : Nat) : List (List α) :=
  (List.range (n + 1)).flatMap (fun i => if i ≥ 2 then combinations M i else [])

def ppow (p : PV) (n : Nat) : PV :=
  match p with
  | .t a => .t a
  | .m M => .m (addL M ((combsUpTo M n).map (fun ts => dedup ts.flatten)))

/-- no component of the term has a numeric name (`Term.__mul__` & co. refuse a right operand that
is a single numeric component) -/
def NonNum (t : STerm) : Prop := ∀ a ∈ t, a.isNumericName = false

theorem numericSingle_false {b : STerm} (h : NonNum b) : numericSingle (.term b) = false := by
  unfold numericSingle
  split
  · rename_i a heq
    injection heq with heq
    subst heq
    exact h a (by simp)
  · rfl

theorem add_plain (p q : PV) : add p.toObj q.toObj = .ok (padd p q).toObj := by
  unfold add
  cases p with
  | t a =>
    cases q with
    | t b =>
      simp only [PV.toObj, padd]
      split <;> rfl
    | m O =>
      have h1 : modelOfC [CTerm.term a] = plainM [a] := rfl
      simp only [PV.toObj, padd, bind, Except.bind, pure, Except.pure, h1, addModel_plain]
  | m M =>
    cases q with
    | t b =>
      simp only [PV.toObj, padd, bind, Except.bind, pure, Except.pure, addTerm_plain]
    | m O =>
      simp only [PV.toObj, padd, bind, Except.bind, pure, Except.pure, addModel_plain]

theorem plainM_nil : ({} : ModelV) = plainM [] := rfl
theorem modelOfC_map_term (L : List STerm) : modelOfC (L.map .term) = plainM L := rfl
theorem modelOfC_cons_term (a : STerm) (L : List STerm) :
    modelOfC (.term a :: L.map .term) = plainM (a :: L) := rfl

theorem sub_plain (p q : PV) : sub p.toObj q.toObj = .ok (psub p q).toObj := by
  unfold sub
  cases p with
  | t a =>
    cases q with
    | t b =>
      simp only [PV.toObj, psub]
      split <;> rfl
    | m O =>
      simp only [PV.toObj, psub, plainM_common, contains_map_inj _ term_inj]
      split <;> rfl
  | m M =>
    cases q with
    | t b =>
      simp only [PV.toObj, psub, plainM_common, removeFirst_map_inj _ term_inj, pure,
        Except.pure]
      rfl
    | m O =>
      have h := remL_map_inj _ term_inj M O
      unfold remL at h
      simp only [PV.toObj, psub, plainM_common, plainM_group, h, pure, Except.pure,
        List.foldl_nil]
      rfl

theorem matmul_plain (p q : PV) (hq : ∀ t ∈ q.list, NonNum t) :
    matmul p.toObj q.toObj = .ok (pmatmul p q).toObj := by
  unfold matmul
  cases p with
  | t a =>
    cases q with
    | t b =>
      have hb := numericSingle_false (hq b (by simp [PV.list]))
      simp only [PV.toObj, pmatmul, hb, mkTerm]
      split <;> simp [pure, Except.pure]
    | m O =>
      simp only [PV.toObj, pmatmul, plainM_common, mapE_inter_left, bind, Except.bind,
        pure, Except.pure, modelOfC_map_term]
  | m M =>
    cases q with
    | t b =>
      simp only [PV.toObj, pmatmul, plainM_common, mapE_inter_right, bind, Except.bind,
        pure, Except.pure, modelOfC_map_term]
    | m O =>
      simp only [PV.toObj, pmatmul, plainM_common, mapE_inter_pairs, bind, Except.bind,
        pure, Except.pure, modelOfC_map_term]

theorem mul_plain (p q : PV) (hq : ∀ t ∈ q.list, NonNum t) :
    mul p.toObj q.toObj = .ok (pmul p q).toObj := by
  unfold mul
  cases p with
  | t a =>
    cases q with
    | t b =>
      have hb := numericSingle_false (hq b (by simp [PV.list]))
      simp only [PV.toObj, pmul, hb, mkTerm]
      split <;> simp [pure, Except.pure, plainM]
    | m O =>
      simp only [PV.toObj, pmul, plainM_common, mapE_inter_left, bind, Except.bind,
        pure, Except.pure, addInteractions, modelOfC_map_term, modelOfC_cons_term,
        addModel_plain]
  | m M =>
    cases q with
    | t b =>
      have hb := numericSingle_false (hq b (by simp [PV.list]))
      have h1 : (M.map CTerm.term ++ [CTerm.term b]) = (M ++ [b]).map CTerm.term := by simp
      simp only [PV.toObj, pmul, hb, plainM_common, mapE_inter_right, bind, Except.bind,
        pure, Except.pure, addInteractions, h1, modelOfC_map_term, addModel_plain]
      simp
    | m O =>
      have h1 : (M.map CTerm.term ++ O.map CTerm.term) = (M ++ O).map CTerm.term := by simp
      simp only [PV.toObj, pmul, modelEq_plain, bind, Except.bind, pure, Except.pure]
      by_cases hs : sameSet M O = true
      · simp [hs]
      · have hs' : sameSet M O = false := by simpa using hs
        simp only [hs', Bool.false_eq_true, if_false, plainM_common, mapE_inter_pairs, h1,
          addInteractions, modelOfC_map_term, addModel_plain]
        -- `if len(other.common_terms) == 1: components = other.common_terms[0].components`: the
        -- model matches `o.common` against `[single]`, so by the length of `O`
        cases O with
        | nil => rfl
        | cons y O =>
          cases O with
          | nil => rfl
          | cons z O => rfl

theorem filterMap_term (F : CTerm → Option CTerm) (g : STerm → STerm)
    (h : ∀ cs, F (.term cs) = some (.term (g cs))) (O : List STerm) :
    (O.map CTerm.term).filterMap F = (O.map g).map .term := by
  induction O with
  | nil => rfl
  | cons y O ih => simp only [List.map_cons, List.filterMap_cons, h, ih]

theorem div_plain (p q : PV) (hq : ∀ t ∈ q.list, NonNum t) :
    div p.toObj q.toObj = .ok (pdiv p q).toObj := by
  unfold div
  cases p with
  | t a =>
    cases q with
    | t b =>
      have hb := numericSingle_false (hq b (by simp [PV.list]))
      simp only [PV.toObj, pdiv, hb, mkTerm]
      split <;> simp [pure, Except.pure, plainM]
    | m O =>
      have h1 : modelOfC [CTerm.term a] = plainM [a] := rfl
      simp only [PV.toObj, pdiv, plainM_common, mapE_inter_left, bind, Except.bind,
        pure, Except.pure, modelOfC_map_term, h1, addModel_plain]
  | m M =>
    cases q with
    | t b =>
      simp only [PV.toObj, pdiv, mkTerm, commonComponents_plain, addTerm_plain, bind,
        Except.bind, pure, Except.pure]
    | m O =>
      simp only [PV.toObj, pdiv, commonComponents_plain, plainM_common]
      rw [filterMap_term _ (fun y => dedup (M.flatten ++ y)) (fun cs => rfl)]
      simp only [modelOfC_map_term, addModel_plain, bind, Except.bind, pure, Except.pure]

theorem combsUpTo_map {α β : Type} (f : α → β) (M : List α) (n : Nat) :
    combsUpTo (M.map f) n = (combsUpTo M n).map (List.map f) := by
  unfold combsUpTo
  simp only [List.map_flatMap, combinations_map]
  congr 1
  funext i
  split <;> simp

theorem mapE_comps (ts : List STerm) : mapE comps (ts.map .term) = .ok ts := by
  rw [mapE_ok _ (fun c => match c with | .term cs => cs | _ => [])]
  · simp [List.map_map, Function.comp_def]
  · intro x hx
    simp only [List.mem_map] at hx
    obtain ⟨y, _, rfl⟩ := hx
    rfl

theorem mapE_combs (F : List CTerm → Except Err CTerm)
    (hF : ∀ ts : List STerm, F (ts.map .term) = .ok (CTerm.term (dedup ts.flatten)))
    (L : List (List STerm)) :
    mapE F (L.map (List.map CTerm.term)) =
      .ok ((L.map (fun ts => dedup ts.flatten)).map .term) := by
  induction L with
  | nil => rfl
  | cons ts L ih =>
    simp only [List.map_cons, mapE, hF, ih, bind, Except.bind, pure, Except.pure]

theorem pow_plain (p : PV) (n : Nat) (lv : Option String) (hn : 1 ≤ n) :
    pow p.toObj (.c (.term [.var (.int (n : Int)) lv])) = .ok (ppow p n).toObj := by
  unfold pow
  have hn' : (n : Int) ≥ 1 := by omega
  cases p with
  | t a =>
    simp only [PV.toObj, ppow, hn', if_true, pure, Except.pure]
  | m M =>
    have h1 := combsUpTo_map CTerm.term M n
    unfold combsUpTo at h1
    simp only [PV.toObj, ppow, hn', if_true, plainM_common, Int.toNat_natCast, h1]
    rw [mapE_combs _ (fun ts => by simp only [mapE_comps, mkTerm, bind, Except.bind, pure, Except.pure])]
    simp only [bind, Except.bind, pure, Except.pure, modelOfC_map_term, addModel_plain]
    rfl

end FormulaeModel.Terms
