import FormulaeModel.Spec.C12
import FormulaeModel.Proofs.KindAll
/-
What the inductions of C12 share: the documented operator tables against Python's reading of the
token kinds, the argument position that is not an `Assign`, induction over the Python alphabet.
-/
namespace FormulaeModel.Lazy
open FormulaeModel.Spec.C12

theorem doc_binary_is_python : ∀ k : Kind,
    (lookup documentedOps.binary k.name).bind BinOp.ofName? = pyBinOp k ∧
    (lookup documentedOps.binary k.name).bind (lookup documentedOps.symbols)
      = (pyBinOp k).map (fun _ => pySymbol k) :=
  Kind.forall_of_all (by decide +kernel)

theorem doc_unary_is_python : ∀ k : Kind,
    (lookup documentedOps.unary k.name).bind UnOp.ofName? = pyUnOp k ∧
    (lookup documentedOps.unary k.name).bind (lookup documentedOps.symbols)
      = (pyUnOp k).map (fun _ => pySymbol k) :=
  Kind.forall_of_all (by decide +kernel)

theorem bind_some_pair {α β γ : Type} {x : Option α} {f : α → Option β} {g : α → Option γ}
    {b : β} {c : γ} (hf : x.bind f = some b) (hg : x.bind g = some c) :
    ∃ a, x = some a ∧ f a = some b ∧ g a = some c := by
  cases x with
  | none => cases hf
  | some a => exact ⟨a, rfl, hf, hg⟩

theorem doc_binary (k : Kind) (o : BinOp) (h : pyBinOp k = some o) :
    ∃ fn, lookup documentedOps.binary k.name = some fn ∧ BinOp.ofName? fn = some o ∧
      lookup documentedOps.symbols fn = some (pySymbol k) :=
  have ⟨h1, h2⟩ := doc_binary_is_python k
  bind_some_pair (h ▸ h1) (by rw [h2, h]; rfl)

theorem doc_unary (k : Kind) (o : UnOp) (h : pyUnOp k = some o) :
    ∃ fn, lookup documentedOps.unary k.name = some fn ∧ UnOp.ofName? fn = some o ∧
      lookup documentedOps.symbols fn = some (pySymbol k) :=
  have ⟨h1, h2⟩ := doc_unary_is_python k
  bind_some_pair (h ▸ h1) (by rw [h2, h]; rfl)

/-! The model matches `.assign` first and sends every other constructor of an argument to one arm:
in the `_other` equations, here and in the files that follow, nine cases are `rfl` and `h` refutes
`.assign` (`cases e <;> first | rfl | cases h`). -/

section
variable (T : OpTable)

theorem resolve_brace_other (lb rb : Token) (e : Expr) (h : isAssign e = false) :
    resolve T (.brace lb e rb) = (do
      let a ← resolve T e
      pure (.call "I" (.cons a .nil) .nil)) := by
  cases e <;> first | rfl | cases h

theorem resolveArgs_last_other (e : Expr) (h : isAssign e = false) :
    resolveArgs T (.last e) = (do
      let a ← resolve T e
      pure (packArg none a (.nil, .nil))) := by
  cases e <;> first | rfl | cases h

theorem resolveArgs_more_other (e : Expr) (c : Token) (rest : Args) (h : isAssign e = false) :
    resolveArgs T (.more e c rest) = (do
      let a ← resolve T e
      let r ← resolveArgs T rest
      pure (packArg none a r)) := by
  cases e <;> first | rfl | cases h

end

theorem find_none_of_not_mem (k : String) : ∀ (rest : LazyKw), k ∉ rest.keys → rest.find? k = none
  | .nil, _ => rfl
  | .cons k' a' r, h => by
    simp only [LazyKw.keys, List.mem_cons, not_or] at h
    have hne : (k' == k) = false := by simpa using fun hh => h.1 hh.symm
    simp [LazyKw.find?, hne, find_none_of_not_mem k r h.2]

theorem kwCons_fresh (k : String) (a : Lazy) (rest : LazyKw) (h : k ∉ rest.keys) :
    kwCons k a rest = .cons k a rest := by
  simp [kwCons, find_none_of_not_mem k rest h]

theorem plainVariable_eq (c : Expr) (h : isPlainVariable c = true) :
    ∃ n, c = .variable n ∧ n.kind = .IDENTIFIER := by
  cases c <;> first | cases h | exact ⟨_, rfl, beq_iff_eq.mp h⟩

theorem alphaArgs_last_other (e : Expr) (kw : Bool) (h : isAssign e = false) :
    alphaArgs (.last e) kw = (!kw && alpha e) := by
  cases e <;> first | rfl | cases h

theorem alphaArgs_more_other (e : Expr) (c : Token) (rest : Args) (kw : Bool)
    (h : isAssign e = false) :
    alphaArgs (.more e c rest) kw = (c.kind == .COMMA && (match rest with | .nil => false | _ => true)
      && (!kw && alpha e && alphaArgs rest false)) := by
  cases e <;> first | rfl | cases h

theorem kwNames_last_other (e : Expr) (h : isAssign e = false) : kwNames (.last e) = [] := by
  cases e <;> first | rfl | cases h

theorem kwNames_more_other (e : Expr) (c : Token) (rest : Args) (h : isAssign e = false) :
    kwNames (.more e c rest) = kwNames rest := by
  cases e <;> first | rfl | cases h

/-- A structure: as eleven separate hypotheses of the mutual induction below the cases are slow
to check. -/
structure AlphaCases (P : Expr → Prop) (Q : Args → Bool → Prop) : Prop where
  binary : ∀ l op r o, pyBinOp op.kind = some o → alpha l = true → alpha r = true →
    P l → P r → P (.binary l op r)
  unary : ∀ op r o, pyUnOp op.kind = some o → alpha r = true → P r → P (.unary op r)
  call : ∀ n lp as rp, n.kind = .IDENTIFIER → lp.kind = .LEFT_PAREN → rp.kind = .RIGHT_PAREN →
    (kwNames as).Nodup → Q as false → P (.call (.variable n) lp as rp)
  grouping : ∀ lp e rp, lp.kind = .LEFT_PAREN → rp.kind = .RIGHT_PAREN → alpha e = true →
    P e → P (.grouping lp e rp)
  ident : ∀ n, n.kind = .IDENTIFIER → P (.variable n)
  literal : ∀ t, pyLiteralOk t = true → P (.literal t)
  argsNil : ∀ kw, Q .nil kw
  lastKw : ∀ k eq v kw, k.kind = .IDENTIFIER → eq.kind = .EQUAL → alpha v = true → P v →
    Q (.last (.assign (.variable k) eq v)) kw
  lastPos : ∀ e, isAssign e = false → alpha e = true → P e → Q (.last e) false
  moreKw : ∀ k eq v c rest kw, k.kind = .IDENTIFIER → eq.kind = .EQUAL → c.kind = .COMMA →
    rest ≠ .nil → alpha v = true → P v → Q rest true →
    Q (.more (.assign (.variable k) eq v) c rest) kw
  morePos : ∀ e c rest, isAssign e = false → c.kind = .COMMA → rest ≠ .nil → alpha e = true →
    P e → Q rest false → Q (.more e c rest) false

mutual
theorem alpha_induction {P : Expr → Prop} {Q : Args → Bool → Prop} (H : AlphaCases P Q) : ∀ e : Expr, alpha e = true → P e
  | .binary l op r, h => by
    have ⟨h, hr⟩ := Bool.and_eq_true_iff.mp h
    have ⟨ho, hl⟩ := Bool.and_eq_true_iff.mp h
    obtain ⟨o, ho⟩ := Option.isSome_iff_exists.mp ho
    exact H.binary l op r o ho hl hr (alpha_induction H l hl) (alpha_induction H r hr)
  | .unary op r, h => by
    have ⟨ho, hr⟩ := Bool.and_eq_true_iff.mp h
    obtain ⟨o, ho⟩ := Option.isSome_iff_exists.mp ho
    exact H.unary op r o ho hr (alpha_induction H r hr)
  | .call c lp as rp, h => by
    simp only [alpha, Bool.and_eq_true, decide_eq_true_eq, beq_iff_eq] at h
    obtain ⟨⟨⟨⟨hc, hlp⟩, hrp⟩, has⟩, hn⟩ := h
    obtain ⟨n, rfl, hk⟩ := plainVariable_eq c hc
    exact H.call n lp as rp hk hlp hrp hn (alphaArgs_induction H as false has)
  | .grouping lp e rp, h => by
    simp only [alpha, Bool.and_eq_true, beq_iff_eq] at h
    exact H.grouping lp e rp h.1.1 h.1.2 h.2 (alpha_induction H e h.2)
  | .variable n, h => H.ident n (beq_iff_eq.mp h)
  | .literal t, h => H.literal t h
  | .quoted _, h => nomatch h
  | .subset .., h => nomatch h
  | .brace .., h => nomatch h
  | .assign .., h => nomatch h
theorem alphaArgs_induction {P : Expr → Prop} {Q : Args → Bool → Prop} (H : AlphaCases P Q) : ∀ (as : Args) (kw : Bool), alphaArgs as kw = true → Q as kw
  | .nil, kw, _ => H.argsNil kw
  | .last e, kw, h => by
    cases hA : isAssign e with
    | true =>
      cases e <;> first | cases hA | skip
      rename_i n eq v
      simp only [alphaArgs, Bool.and_eq_true, beq_iff_eq] at h
      obtain ⟨k, rfl, hk⟩ := plainVariable_eq n h.1.1
      exact H.lastKw k eq v kw hk h.1.2 h.2 (alpha_induction H v h.2)
    | false =>
      rw [alphaArgs_last_other e kw hA] at h
      simp only [Bool.and_eq_true, Bool.not_eq_true'] at h
      obtain ⟨rfl, he⟩ := h
      exact H.lastPos e hA he (alpha_induction H e he)
  | .more e c rest, kw, h => by
    cases hA : isAssign e with
    | true =>
      cases e <;> first | cases hA | skip
      rename_i n eq v
      simp only [alphaArgs, Bool.and_eq_true, beq_iff_eq] at h
      obtain ⟨⟨hc, hne⟩, ⟨⟨hn, he⟩, hv⟩, hr⟩ := h
      obtain ⟨k, rfl, hk⟩ := plainVariable_eq n hn
      exact H.moreKw k eq v c rest kw hk he hc (by rintro rfl; cases hne) hv (alpha_induction H v hv)
        (alphaArgs_induction H rest true hr)
    | false =>
      rw [alphaArgs_more_other e c rest kw hA] at h
      simp only [Bool.and_eq_true, beq_iff_eq, Bool.not_eq_true'] at h
      obtain ⟨⟨hc, hne⟩, ⟨rfl, he⟩, hr⟩ := h
      exact H.morePos e c rest hA hc (by rintro rfl; cases hne) he (alpha_induction H e he)
        (alphaArgs_induction H rest false hr)
end
end FormulaeModel.Lazy
