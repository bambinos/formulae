import FormulaeModel.Proofs.TermsChain
/-
C02, layer 5: intercept literals, the effect side of `|` (a chain without implicit intercept,
`0`/`-1` first or not at all outside D3), `Model.__or__`, and group-specific items.
-/
namespace FormulaeModel.Resolver
open FormulaeModel.Terms FormulaeModel.Spec.C02

theorem resolve_zero {t : Token} (h : isLit (.literal t) "0" = true) :
    resolve docOps (.literal t) = .ok (.c .negIntercept) := by
  simp only [isLit, Bool.and_eq_true, beq_iff_eq] at h
  obtain ⟨hk, hl⟩ := h
  have h0 : numIsZero "0" = true := by decide
  simp only [resolve, hk, hl, h0, if_true]
  rfl

theorem resolve_neg_one {op t : Token} (hk : op.kind = .MINUS) (h : isLit (.literal t) "1" = true) :
    resolve docOps (.unary op (.literal t)) = .ok (.c .negIntercept) := by
  have h2 := resolve_one h
  simp only [resolve] at h2 ⊢
  simp only [hk, h2, bind, Except.bind]
  rfl

theorem isLit_literal {e : Expr} {s : String} (h : isLit e s = true) : ∃ t, e = .literal t := by
  cases e <;> simp [isLit] at h
  exact ⟨_, rfl⟩

theorem literalItem_inv {s : Bool} {r : Expr} {i : Item} (h : literalItem s r = some i) :
    (s = true ∧ i = .addI ∧ isLit r "1" = true) ∨ (s = true ∧ i = .remI ∧ isLit r "0" = true) ∨
    (s = false ∧ i = .remI ∧ isLit r "1" = true) ∨
    (s = true ∧ i = .remI ∧ ∃ op t, r = .unary op (.literal t) ∧ op.kind = .MINUS ∧
      isLit (.literal t) "1" = true) := by
  unfold literalItem at h
  split at h
  · rename_i h1
    injection h with h
    simp only [Bool.and_eq_true] at h1
    exact Or.inl ⟨h1.1, h.symm, h1.2⟩
  · split at h
    · rename_i h1
      injection h with h
      simp only [Bool.and_eq_true] at h1
      exact Or.inr (Or.inl ⟨h1.1, h.symm, h1.2⟩)
    · split at h
      · rename_i h1
        injection h with h
        simp only [Bool.and_eq_true, Bool.not_eq_true'] at h1
        exact Or.inr (Or.inr (Or.inl ⟨h1.1, h.symm, h1.2⟩))
      · split at h
        · rename_i op r' _ _ _
          split at h
          · rename_i h1
            injection h with h
            simp only [Bool.and_eq_true, beq_iff_eq] at h1
            obtain ⟨t, rfl⟩ := isLit_literal h1.2
            exact Or.inr (Or.inr (Or.inr ⟨h1.1.1, h.symm, op, t, rfl, h1.1.2, h1.2⟩))
          · cases h
        · cases h

theorem literal_val {s : Bool} {r : Expr} {i : Item} {rv : Obj}
    (h : literalItem s r = some i) (hr : resolve docOps r = .ok rv) :
    (s = true ∧ i = .addI ∧ rv = .c .intercept) ∨ (s = true ∧ i = .remI ∧ rv = .c .negIntercept) ∨
    (s = false ∧ i = .remI ∧ rv = .c .intercept) := by
  rcases literalItem_inv h with ⟨hs, hi, h1⟩ | ⟨hs, hi, h1⟩ | ⟨hs, hi, h1⟩ |
    ⟨hs, hi, op, t, rfl, hk, h1⟩
  · obtain ⟨t, rfl⟩ := isLit_literal h1
    rw [resolve_one h1] at hr
    injection hr with hr
    exact Or.inl ⟨hs, hi, hr.symm⟩
  · obtain ⟨t, rfl⟩ := isLit_literal h1
    rw [resolve_zero h1] at hr
    injection hr with hr
    exact Or.inr (Or.inl ⟨hs, hi, hr.symm⟩)
  · obtain ⟨t, rfl⟩ := isLit_literal h1
    rw [resolve_one h1] at hr
    injection hr with hr
    exact Or.inr (Or.inr ⟨hs, hi, hr.symm⟩)
  · rw [resolve_neg_one hk h1] at hr
    injection hr with hr
    exact Or.inr (Or.inl ⟨hs, hi, hr.symm⟩)

theorem literalItem_cases {s : Bool} {r : Expr} {i : Item} (h : literalItem s r = some i) :
    i = .addI ∨ i = .remI := by
  rcases literalItem_inv h with ⟨_, hi, _⟩ | ⟨_, hi, _⟩ | ⟨_, hi, _⟩ | ⟨_, hi, _⟩
  · exact Or.inl hi
  all_goals exact Or.inr hi

theorem asC_toObj (p : PV) : asC p.toObj = p.list.map .term := by cases p <;> rfl
theorem asG_toObj (p : PV) : asG p.toObj = [] := by cases p <;> rfl
theorem asResp_toObj (p : PV) : asResp p.toObj = none := by cases p <;> rfl
theorem isAcc_toObj (p : PV) : isAcc p.toObj = true := by cases p <;> rfl
theorem toObj_ne_neg (p : PV) : p.toObj ≠ .c .negIntercept := by cases p <;> simp [PV.toObj]
theorem toObj_ne_icpt (p : PV) : p.toObj ≠ .c .intercept := by cases p <;> simp [PV.toObj]
theorem mem_map_term {L : List STerm} {t : STerm} : CTerm.term t ∈ L.map CTerm.term ↔ t ∈ L := by
  simp only [List.mem_map]
  constructor
  · rintro ⟨y, hy, e⟩; exact term_inj _ _ e ▸ hy
  · intro h; exact ⟨t, h, rfl⟩

theorem plain_val {r : Expr} {ts : List STerm} {rv : Obj} (hd : denT r = some ts)
    (hr : resolve docOps r = .ok rv) (hng : NoGap r) :
    ∃ p : PV, rv = p.toObj ∧ ∀ t, t ∈ p.list ↔ t ∈ ts := by
  obtain ⟨p, rfl, _, hs⟩ := resolve_plain hd hr
  refine ⟨p, rfl, ?_⟩
  intro t; rw [← hs hng, mem_dedup]

theorem chain_ne_nil (x : Expr) : chain x ≠ [] := by
  cases x with
  | binary l op r =>
    simp only [chain]
    split
    · simp
    · split <;> simp
  | _ => simp [chain]

theorem chain_plus {l : Expr} {op : Token} {r : Expr} (hk : op.kind = .PLUS) :
    chain (.binary l op r) = chain l ++ [(true, r)] := by
  simp [chain, hk]

theorem chain_minus {l : Expr} {op : Token} {r : Expr} (hk : op.kind = .MINUS) :
    chain (.binary l op r) = chain l ++ [(false, r)] := by
  simp [chain, hk]

theorem chain_other {l : Expr} {op : Token} {r : Expr} (h1 : op.kind ≠ .PLUS)
    (h2 : op.kind ≠ .MINUS) : chain (.binary l op r) = [(true, .binary l op r)] := by
  have h1' : (op.kind == Kind.PLUS) = false := by simpa using h1
  have h2' : (op.kind == Kind.MINUS) = false := by simpa using h2
  simp [chain, h1', h2']

def litOf (it : Bool × Expr) : Option Item := literalItem it.1 it.2

def firstRem (items : List (Bool × Expr)) : Bool := ((items.map litOf).take 1).any isRemItem

theorem effGapD3_eq (items : List (Bool × Expr)) : effGapD3 items =
    (((items.map litOf).drop 1).any isRemItem ||
      (((items.map litOf).take 1).any isRemItem && ((items.map litOf).drop 1).any isAddItem)) := rfl

theorem effGap_single (x : Bool × Expr) : effGapD3 [x] = false := by
  simp [effGapD3_eq]

theorem firstRem_snoc {A : List (Bool × Expr)} (x : Bool × Expr) (hA : A ≠ []) :
    firstRem (A ++ [x]) = firstRem A := by
  cases A with
  | nil => exact absurd rfl hA
  | cons a A => simp [firstRem]

theorem effGap_snoc {A : List (Bool × Expr)} (x : Bool × Expr) (hA : A ≠ [])
    (h : effGapD3 (A ++ [x]) = false) :
    effGapD3 A = false ∧ isRemItem (litOf x) = false ∧
      (firstRem A = true → isAddItem (litOf x) = false) := by
  cases A with
  | nil => exact absurd rfl hA
  | cons a A =>
    simp only [effGapD3_eq, firstRem, List.cons_append, List.map_cons, List.map_append,
      List.map_nil, List.drop_succ_cons, List.drop_zero, List.take_succ_cons, List.take_zero,
      List.any_append, List.any_cons, List.any_nil, Bool.or_false] at h ⊢
    -- propositional in the five Booleans named below
    generalize (A.map litOf).any isRemItem = p1 at h ⊢
    generalize isRemItem (litOf x) = p2 at h ⊢
    generalize isRemItem (litOf a) = p3 at h ⊢
    generalize (A.map litOf).any isAddItem = p4 at h ⊢
    generalize isAddItem (litOf x) = p5 at h ⊢
    cases p1 <;> cases p2 <;> cases p3 <;> cases p4 <;> cases p5 <;> simp_all

theorem effChain_snoc (A : List (Bool × Expr)) (x : Bool × Expr) :
    effChain (A ++ [x]) = (effChain A).bind (fun st => effStep st x) := by
  simp only [effChain, List.foldlM_append, List.foldlM_cons, List.foldlM_nil]
  cases List.foldlM effStep (true, []) A with
  | none => rfl
  | some st =>
    simp only [Option.bind_eq_bind, Option.bind_some]
    cases effStep st x <;> rfl

theorem effChain_single (x : Bool × Expr) : effChain [x] = effStep (true, []) x := by
  simp only [effChain, List.foldlM_cons, List.foldlM_nil]
  cases effStep (true, []) x <;> rfl

/-- the intercept of the effect side is implicit (`cs` need not hold it); once removed — outside D3
only by a leading `0` / `-1` — the `NegatedIntercept` stays in `cs` -/
structure EffRep (cs : List CTerm) (icpt : Bool) (ets : List STerm) : Prop where
  terms : ∀ t, CTerm.term t ∈ cs ↔ t ∈ ets
  pos : icpt = true → CTerm.negIntercept ∉ cs
  neg : icpt = false → cs.Nodup ∧ CTerm.negIntercept ∈ cs ∧ CTerm.intercept ∉ cs

structure EffVal (ev : Obj) (st : Bool × List STerm) : Prop where
  acc : isAcc ev = true
  nog : asG ev = []
  nor : asResp ev = none
  rep : EffRep (asC ev) st.1 st.2

/-- outside D3 the first item alone decides the intercept flag: no later item removes it, and
`+ 1` after a removal is excluded -/
def EffAt (x : Expr) : Prop :=
  ∀ ev st, resolve docOps x = .ok ev → effChain (chain x) = some st →
    effGapD3 (chain x) = false → NoGap x → EffVal ev st ∧ st.1 = !firstRem (chain x)

theorem NoGap.minus_nodup {l : Expr} {op : Token} {r : Expr} (h : NoGap (.binary l op r))
    (hk : op.kind = .MINUS) {lv : Obj} (hl : resolve docOps l = .ok lv) :
    (asC lv).Nodup ∧ (asG lv).Nodup := by
  cases lv with
  | model m => exact h.minus_model hk hl
  | _ => simp [asC, asG]

/-- indices: sign, the item read as a literal, its value, the specification's state after it -/
inductive EffItem (st : Bool × List STerm) : Bool → Option Item → Obj → Bool × List STerm → Prop
  | addI : EffItem st true (some .addI) (.c .intercept) (true, st.2)
  | remI0 : EffItem st true (some .remI) (.c .negIntercept) (false, st.2)
  | remI1 : EffItem st false (some .remI) (.c .intercept) (false, st.2)
  | plain (s : Bool) (p : PV) (ts : List STerm) (h : ∀ t, t ∈ p.list ↔ t ∈ ts) :
      EffItem st s none p.toObj (st.1, if s then union st.2 ts else diff st.2 ts)

theorem effStep_val {st st' : Bool × List STerm} {s : Bool} {r : Expr} {rv : Obj}
    (he : effStep st (s, r) = some st') (hr : resolve docOps r = .ok rv) (hng : NoGap r) :
    EffItem st s (litOf (s, r)) rv st' := by
  unfold effStep at he
  unfold litOf
  cases hlit : literalItem s r with
  | none =>
    simp only [hlit] at he
    obtain ⟨ts, hden, he⟩ := Option.bind_eq_some_iff.1 he
    injection he with he
    subst he
    obtain ⟨p, rfl, hp⟩ := plain_val hden hr hng
    exact .plain s p ts hp
  | some i =>
    rcases literal_val hlit hr with ⟨rfl, rfl, rfl⟩ | ⟨rfl, rfl, rfl⟩ | ⟨rfl, rfl, rfl⟩ <;>
      simp only [hlit, Option.some.injEq] at he <;> subst he
    · exact .addI
    · exact .remI0
    · exact .remI1

theorem eff_single (x : Expr) (hc : chain x = [(true, x)]) : EffAt x := by
  intro ev st hr he hg hng
  rw [hc, effChain_single] at he
  have hfr : firstRem (chain x) = isRemItem (litOf (true, x)) := by
    rw [hc]; simp [firstRem]
  rw [hfr]
  have hi := effStep_val he hr hng
  generalize litOf (true, x) = lo at hi
  cases hi with
  | addI =>
    exact ⟨⟨rfl, rfl, rfl, by simp [asC], by simp [asC], fun h => by simp at h⟩, rfl⟩
  | remI0 =>
    exact ⟨⟨rfl, rfl, rfl, by simp [asC], fun h => by simp at h, fun _ => by simp [asC]⟩, rfl⟩
  | plain _ p ts hp =>
    refine ⟨⟨isAcc_toObj p, asG_toObj p, asResp_toObj p, ?_⟩, rfl⟩
    rw [asC_toObj]
    refine ⟨?_, fun _ hc => ne_neg_of_map_term _ hc rfl, fun h => by simp at h⟩
    intro t; rw [mem_map_term, hp t]; simp [mem_union]

theorem eff_step (l : Expr) (op : Token) (r : Expr) (s : Bool)
    (hk : op.kind = if s then .PLUS else .MINUS) (ih : EffAt l) : EffAt (.binary l op r) := by
  intro ev st hr he hg hng
  have hc : chain (.binary l op r) = chain l ++ [(s, r)] := by
    cases s
    · exact chain_minus hk
    · exact chain_plus hk
  rw [hc] at he hg ⊢
  rw [effChain_snoc] at he
  obtain ⟨stl, hel, hes⟩ := Option.bind_eq_some_iff.1 he
  obtain ⟨hgl, hnrem, hadd⟩ := effGap_snoc _ (chain_ne_nil l) hg
  obtain ⟨lv, rv, hl, hrr, hv⟩ :=
    resolve_binary_ok (o := if s then .add else .sub) (by cases s <;> (rw [hk]; rfl)) hr
  obtain ⟨hvl, hfl⟩ := ih lv stl hl hel hgl hng.left
  rw [firstRem_snoc _ (chain_ne_nil l)]
  have hi := effStep_val hes hrr hng.right
  generalize litOf (s, r) = lo at hi hnrem hadd
  cases hi with
  | remI0 => cases hnrem
  | remI1 => cases hnrem
  | addI =>
    have hfr : firstRem (chain l) = false := by
      cases hf : firstRem (chain l) with
      | false => rfl
      | true => cases hadd hf
    have hst : stl.1 = true := by rw [hfl, hfr]; rfl
    have hnn : lv ≠ .c .negIntercept := by
      rintro rfl
      exact hvl.rep.pos hst (by simp [asC])
    obtain ⟨h1, h2, h3, h4, _⟩ := add_as hv hvl.acc (by simp) (fun e => absurd e hnn)
    refine ⟨⟨h4, by rw [h2, hvl.nog]; rfl, by rw [h3, hvl.nor], ?_⟩, by rw [hfr]; rfl⟩
    rw [h1]
    refine ⟨?_, ?_, fun h => by simp at h⟩
    · intro t
      rw [mem_addL, hvl.rep.terms t]
      simp [asC]
    · intro _ hc
      rcases (mem_addL _ _).1 hc with h | h
      · exact hvl.rep.pos hst h
      · simp [asC] at h
  | plain _ p ts hp =>
    cases s with
    | true =>
      obtain ⟨h1, h2, h3, h4, _⟩ := add_as hv hvl.acc (toObj_ne_neg p) (fun _ => toObj_ne_icpt p)
      rw [asC_toObj] at h1
      rw [asG_toObj, hvl.nog] at h2
      refine ⟨⟨h4, by rw [h2]; rfl, by rw [h3, hvl.nor], ?_⟩, hfl⟩
      rw [h1]
      refine ⟨?_, ?_, ?_⟩
      · intro t
        rw [mem_addL, mem_map_term, if_pos rfl, mem_union, hvl.rep.terms t, hp t]
      · intro hi hc
        rcases (mem_addL _ _).1 hc with h | h
        · exact hvl.rep.pos hi h
        · exact ne_neg_of_map_term _ h rfl
      · intro hi
        obtain ⟨n1, n2, n3⟩ := hvl.rep.neg hi
        refine ⟨nodup_addL n1 _, (mem_addL _ _).2 (Or.inl n2), ?_⟩
        intro hc
        rcases (mem_addL _ _).1 hc with h | h
        · exact n3 h
        · simp at h
    | false =>
      obtain ⟨h1, h2, h3, h4⟩ := sub_as hv hvl.acc
      have hnd := (hng.minus_nodup hk hl).1
      rw [asC_toObj] at h1
      rw [asG_toObj, hvl.nog] at h2
      refine ⟨⟨h4, by rw [h2]; rfl, by rw [h3, hvl.nor], ?_⟩, hfl⟩
      rw [h1]
      refine ⟨?_, fun hi hc => hvl.rep.pos hi (mem_remL hc), ?_⟩
      · intro t
        rw [mem_remL_nodup hnd, mem_map_term, if_neg (by simp), mem_diff, hvl.rep.terms t, hp t]
      · intro hi
        obtain ⟨n1, n2, n3⟩ := hvl.rep.neg hi
        refine ⟨n1.sublist (remL_sublist _ _), ?_, fun hc => n3 (mem_remL hc)⟩
        exact (mem_remL_nodup hnd _ _).2 ⟨n2, fun hc => ne_neg_of_map_term _ hc rfl⟩

theorem eff_main (x : Expr) : EffAt x := by
  induction x using chain.induct with
  | case1 l op r hk ih => exact eff_step l op r true (by simpa using hk) ih
  | case2 l op r h1 hk ih => exact eff_step l op r false (by simpa using hk) ih
  | case3 l op r h1 h2 =>
    exact eff_single _ (chain_other (by simpa using h1) (by simpa using h2))
  | case4 e h =>
    apply eff_single
    cases e with
    | binary l op r => exact (h _ _ _ rfl).elim
    | _ => rfl

def effL (cs : List CTerm) : List CTerm := effectList { common := cs }

theorem effectList_eq (m : ModelV) : effectList m = effL m.common := rfl

structure GroupVal (rv : Obj) (Lg : List GTerm) : Prop where
  nresp : ∀ r, rv ≠ .response r
  nneg : rv ≠ .c .negIntercept
  nicpt : rv ≠ .c .intercept
  c : asC rv = []
  g : asG rv = Lg
  r : asResp rv = none

theorem gts_single (e f : CTerm) : gts [e] [f] = [⟨e, f⟩] := by simp [gts]
theorem gts_pair (a b : CTerm) (F : List CTerm) : gts [a, b] F = gts [a] F ++ gts [b] F := by
  simp [gts]

theorem effL_icpt : effL [.intercept] = [.intercept] := by decide
theorem effL_term (a : List Atom) : effL [.term a] = [.intercept, .term a] := by
  simp [effL, effectList]

theorem orC_as {t : CTerm} {rv : Obj} {q : PV} (h : orC t q.toObj = .ok rv) :
    GroupVal rv (gts (effL [t]) (q.list.map .term)) := by
  cases t with
  | negIntercept => cases q <;> cases h
  | intercept =>
    cases q <;>
    · injection h with h; subst h
      simp only [effL_icpt, PV.list, List.map_cons, List.map_nil, gts_single, plainM_common]
      exact ⟨by simp, by simp, by simp, rfl, rfl, rfl⟩
  | term a =>
    cases q <;>
    · injection h with h; subst h
      simp only [effL_term, PV.list, List.map_cons, List.map_nil, gts_pair, gts_single,
        plainM_common]
      exact ⟨by simp, by simp, by simp, rfl, rfl, rfl⟩

/-- a `Model` with a single common term hands over to that term (`self.common_terms[0] | other`) -/
theorem or_as {ev rv : Obj} {q : PV} (hacc : isAcc ev = true) (h : or_ ev q.toObj = .ok rv) :
    GroupVal rv (gts (effL (asC ev)) (q.list.map .term)) := by
  cases ev with
  | g x => cases hacc
  | response r => cases hacc
  | c t => exact orC_as h
  | model m =>
    unfold or_ at h
    dsimp only at h
    split at h
    · rename_i single hs
      simp only [asC, hs]
      exact orC_as h
    · cases q <;>
      · injection h with h; subst h
        simp only [asC, PV.list, List.map_cons, List.map_nil, plainM_common, effectList_eq]
        exact ⟨by simp, by simp, by simp, rfl, rfl, rfl⟩

def effsOf (icpt : Bool) (ets : List STerm) : List (Option STerm) :=
  (if icpt then [none] else []) ++ ets.map some

theorem cOf_eq_none_iff {e : CTerm} : cOf e = some none ↔ e = .intercept := by
  cases e <;> simp [cOf]

theorem cOf_eq_some_iff {e : CTerm} {t : STerm} : cOf e = some (some t) ↔ e = .term t := by
  cases e <;> simp [cOf]

theorem mem_effL {cs : List CTerm} {icpt : Bool} {ets : List STerm} (h : EffRep cs icpt ets)
    (e : CTerm) :
    e ∈ effL cs ↔ e ≠ .negIntercept ∧ (e ∈ cs ∨ (e = .intercept ∧ icpt = true)) := by
  cases icpt with
  | true =>
    have hn : CTerm.negIntercept ∉ cs := h.pos rfl
    have hne : e ∈ cs → e ≠ .negIntercept := fun he e' => hn (e' ▸ he)
    have hE : effL cs = if CTerm.intercept ∈ cs then cs else .intercept :: cs := by
      simp [effL, effectList, hn]
    rw [hE]
    split
    · rename_i hi
      exact ⟨fun he => ⟨hne he, Or.inl he⟩, fun ⟨_, he⟩ => he.elim id (fun e' => e'.1 ▸ hi)⟩
    · simp only [List.mem_cons, and_true]
      constructor
      · rintro (rfl | he)
        · exact ⟨by simp, Or.inr rfl⟩
        · exact ⟨hne he, Or.inl he⟩
      · rintro ⟨_, he | he⟩
        · exact Or.inr he
        · exact Or.inl he
  | false =>
    obtain ⟨n1, n2, n3⟩ := h.neg rfl
    have hE : effL cs = removeFirst .negIntercept cs := by
      simp [effL, effectList, n2, n3]
    rw [hE, mem_removeFirst_nodup n1]
    simp [and_comm]

theorem effL_spec {cs : List CTerm} {icpt : Bool} {ets : List STerm} (h : EffRep cs icpt ets) :
    (∀ e ∈ effL cs, e ≠ .negIntercept) ∧
    ∀ x, (∃ e ∈ effL cs, cOf e = some x) ↔ x ∈ effsOf icpt ets := by
  refine ⟨fun e he => ((mem_effL h e).1 he).1, fun x => ?_⟩
  cases x with
  | none =>
    have : (∃ e ∈ effL cs, cOf e = some none) ↔ CTerm.intercept ∈ effL cs :=
      ⟨fun ⟨e, he, hc⟩ => cOf_eq_none_iff.1 hc ▸ he, fun he => ⟨_, he, rfl⟩⟩
    rw [this, mem_effL h]
    cases icpt with
    | true => simp [effsOf]
    | false => simp [effsOf, (h.neg rfl).2.2]
  | some t =>
    have : (∃ e ∈ effL cs, cOf e = some (some t)) ↔ CTerm.term t ∈ effL cs :=
      ⟨fun ⟨e, he, hc⟩ => cOf_eq_some_iff.1 hc ▸ he, fun he => ⟨_, he, rfl⟩⟩
    rw [this, mem_effL h, h.terms t]
    cases icpt <;> simp [effsOf]

theorem mem_gts {g : GTerm} {E F : List CTerm} :
    g ∈ gts E F ↔ ∃ e ∈ E, ∃ f ∈ F, g = ⟨e, f⟩ := by
  simp [gts, eq_comm]

theorem sgOf_mk (e : CTerm) (f : STerm) :
    sgOf ⟨e, .term f⟩ = (cOf e).map (fun x => (⟨x, f⟩ : SG)) := by
  cases e <;> rfl

theorem gts_spec {E : List CTerm} {L gts' : List STerm} {effs : List (Option STerm)}
    (hE : ∀ e ∈ E, e ≠ .negIntercept)
    (hx : ∀ x, (∃ e ∈ E, cOf e = some x) ↔ x ∈ effs) (hL : ∀ t, t ∈ L ↔ t ∈ gts') :
    (∀ g ∈ gts E (L.map .term), ∃ s, sgOf g = some s) ∧
    ∀ s, (∃ g ∈ gts E (L.map .term), sgOf g = some s) ↔
      s ∈ effs.flatMap (fun x => gts'.map (fun f => (⟨x, f⟩ : SG))) := by
  refine ⟨?_, ?_⟩
  · intro g hg
    obtain ⟨e, he, f, hf, rfl⟩ := mem_gts.1 hg
    obtain ⟨t, _, rfl⟩ := List.mem_map.1 hf
    rw [sgOf_mk]
    cases e with
    | negIntercept => exact absurd rfl (hE _ he)
    | intercept => exact ⟨_, rfl⟩
    | term a => exact ⟨_, rfl⟩
  · intro s
    simp only [List.mem_flatMap, List.mem_map]
    constructor
    · rintro ⟨g, hg, hs⟩
      obtain ⟨e, he, f, hf, rfl⟩ := mem_gts.1 hg
      obtain ⟨t, ht, rfl⟩ := List.mem_map.1 hf
      rw [sgOf_mk] at hs
      cases hc : cOf e with
      | none => simp [hc] at hs
      | some x =>
        simp only [hc, Option.map_some, Option.some.injEq] at hs
        exact ⟨x, (hx x).1 ⟨e, he, hc⟩, t, (hL t).1 ht, hs⟩
    · rintro ⟨x, hxe, t, ht, rfl⟩
      obtain ⟨e, he, hc⟩ := (hx x).2 hxe
      refine ⟨⟨e, .term t⟩, mem_gts.2 ⟨e, he, .term t, mem_map_term.2 ((hL t).2 ht), rfl⟩, ?_⟩
      rw [sgOf_mk, hc]; rfl

theorem resolve_stripGroup (r : Expr) : resolve docOps (stripGroup r) = resolve docOps r := by
  induction r using stripGroup.induct with
  | case1 lp e rp ih => simp only [stripGroup, resolve]; exact ih
  | case2 e h =>
    cases e with
    | grouping lp e rp => exact (h _ _ _ rfl).elim
    | _ => rfl

theorem NoGap.strip {r : Expr} (h : NoGap r) : NoGap (stripGroup r) := by
  induction r using stripGroup.induct with
  | case1 lp e rp ih => simp only [stripGroup]; exact ih h.grouping
  | case2 e hne =>
    cases e with
    | grouping lp e rp => exact (hne _ _ _ rfl).elim
    | _ => exact h

theorem grp_val {r : Expr} {gs' : List SG} {rv : Obj} (hd : denG r = some gs')
    (hr : resolve docOps r = .ok rv) (hng : NoGap r) (h3 : itemD3 r = false) :
    ∃ Lg, GroupVal rv Lg ∧ (∀ g ∈ Lg, ∃ s, sgOf g = some s) ∧
      ∀ s, (∃ g ∈ Lg, sgOf g = some s) ↔ s ∈ gs' := by
  -- strip the grouping and split `eff | grp`: the effect side by `eff_main`, the grouping side by
  -- `plain_val`; `or_as` gives the value, which `effL_spec` and `gts_spec` read as the set of `denG`
  rw [← resolve_stripGroup] at hr
  have hng' := hng.strip
  unfold denG at hd
  unfold itemD3 at h3
  generalize stripGroup r = x at hr hng' hd h3
  cases x with
  | binary eff op grp =>
    simp only at hd h3
    by_cases hk : op.kind = .PIPE
    · simp only [hk, beq_self_eq_true, if_true, Bool.true_and] at hd h3
      cases he : effChain (chain eff) with
      | none => simp [he] at hd
      | some st =>
        obtain ⟨icpt, ets⟩ := st
        cases hg : denT grp with
        | none => simp [he, hg] at hd
        | some gts' =>
          simp only [he, hg, Option.bind_eq_bind, Option.bind_some] at hd
          have hfold : (if icpt = true then [none] else []) ++ ets.map some = effsOf icpt ets := rfl
          rw [hfold] at hd
          by_cases hem : ((effsOf icpt ets).isEmpty || gts'.isEmpty) = true
          · simp [hem] at hd
          · simp only [hem, Bool.false_eq_true, if_false, pure, Option.some.injEq] at hd
            subst hd
            obtain ⟨ev, gv, hev, hgv, hv⟩ := resolve_binary_ok (o := .or_) (by rw [hk]; rfl) hr
            obtain ⟨hval, _⟩ := eff_main eff ev (icpt, ets) hev he h3 hng'.left
            obtain ⟨q, rfl, hq⟩ := plain_val hg hgv hng'.right
            simp only [apply] at hv
            have hgv := or_as hval.acc hv
            obtain ⟨hE1, hE2⟩ := effL_spec hval.rep
            obtain ⟨w1, w2⟩ := gts_spec hE1 hE2 hq
            exact ⟨_, hgv, w1, w2⟩
    · have : (op.kind == Kind.PIPE) = false := by simpa using hk
      simp [this] at hd
  | _ => simp at hd

end FormulaeModel.Resolver
