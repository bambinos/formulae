import FormulaeModel.Proofs.ProductOrder
import FormulaeModel.Proofs.RowsComp
/-
Unit rows (the rows of the complete indicator matrix), their row-wise Kronecker products (cells of
`g1:g2:…` in lexicographic order), zero rows, the column `GroupSpecificTerm.eval_new_data` appends.
-/
namespace FormulaeModel.Design

def unitE (G g : Nat) : List Entry := rowOfInts (unitRow G g)

def zeroE (w : Nat) : List Entry := List.replicate w (some (0 : Rat))

theorem unitE_length (G g : Nat) : (unitE G g).length = G := by simp [unitE, rowOfInts, unitRow]

theorem zeroE_length (w : Nat) : (zeroE w).length = w := by simp [zeroE]

theorem unitE_getElem (G g k : Nat) (hk : k < (unitE G g).length) :
    (unitE G g)[k] = some (if k = g then 1 else 0) := by
  have hk' : k < G := by simpa [unitE_length] using hk
  simp only [unitE, rowOfInts, List.getElem_map]
  rw [unitRow_get _ _ _ hk']
  split <;> simp

theorem unitE_getElem? (G g k : Nat) (hk : k < G) :
    (unitE G g)[k]? = some (some (if k = g then 1 else 0)) := by
  rw [List.getElem?_eq_getElem (by rw [unitE_length]; exact hk), unitE_getElem]

theorem entry_one_ne_zero : (some (1 : Rat) : Entry) ≠ some 0 := by decide

theorem isZeroRow_unitE (G g : Nat) (hg : g < G) : isZeroRow (unitE G g) = false :=
  unitRow_nonzero G g hg

theorem isZeroRow_zeroE (w : Nat) : isZeroRow (zeroE w) = true := by
  simp [isZeroRow, zeroE]

theorem rowProd_getElem_divmod (a b : List Entry) (n : Nat) (hn : n < a.length * b.length) :
    ∃ (h1 : n / b.length < a.length) (h2 : n % b.length < b.length),
      (rowProd a b)[n]? = some (Entry.mul a[n / b.length] b[n % b.length]) := by
  have hpos : 0 < b.length := by
    rcases Nat.eq_zero_or_pos b.length with h | h
    · rw [h] at hn; simp at hn
    · exact h
  have h1 : n / b.length < a.length := by
    rw [Nat.div_lt_iff_lt_mul hpos]; exact hn
  have h2 : n % b.length < b.length := Nat.mod_lt _ hpos
  refine ⟨h1, h2, ?_⟩
  have := rowProd_getElem? a b (n / b.length) (n % b.length) h1 h2
  rwa [Nat.div_add_mod' n b.length] at this

theorem mul_ite (p q r : Prop) [Decidable p] [Decidable q] [Decidable r] (h : (p ∧ q) ↔ r) :
    Entry.mul (some (if p then (1 : Rat) else 0)) (some (if q then 1 else 0)) =
      some (if r then 1 else 0) := by
  by_cases hp : p <;> by_cases hq : q
  · have : r := h.1 ⟨hp, hq⟩
    simp [hp, hq, this, Entry.mul]
  · have : ¬ r := fun hr => hq (h.2 hr).2
    simp [hp, hq, this, Entry.mul]
  · have : ¬ r := fun hr => hp (h.2 hr).1
    simp [hp, hq, this, Entry.mul]
  · have : ¬ r := fun hr => hp (h.2 hr).1
    simp [hp, hq, this, Entry.mul]

theorem rowProd_unitE_unitE (G H a b : Nat) (hb : b < H) :
    rowProd (unitE G a) (unitE H b) = unitE (G * H) (a * H + b) := by
  apply List.ext_getElem?
  intro n
  by_cases hn : n < G * H
  · obtain ⟨h1, h2, h⟩ := rowProd_getElem_divmod (unitE G a) (unitE H b) n
      (by rw [unitE_length, unitE_length]; exact hn)
    rw [h, unitE_getElem? _ _ _ hn, unitE_getElem, unitE_getElem]
    simp only [unitE_length] at h1 h2 ⊢
    have hdm := Nat.div_add_mod' n H
    have hiff : (n / H = a ∧ n % H = b) ↔ n = a * H + b := by
      constructor
      · rintro ⟨h3, h4⟩; rw [← hdm, h3, h4]
      · intro h3
        subst h3
        have hpos : 0 < H := by omega
        constructor
        · rw [Nat.mul_comm, Nat.mul_add_div hpos, Nat.div_eq_of_lt hb]; rfl
        · rw [Nat.mul_comm, Nat.mul_add_mod, Nat.mod_eq_of_lt hb]
    exact congrArg some (mul_ite _ _ _ hiff)
  · have hl : (rowProd (unitE G a) (unitE H b)).length = G * H := by
      rw [length_rowProd, unitE_length, unitE_length]
    rw [List.getElem?_eq_none (by rw [hl]; omega), List.getElem?_eq_none (by rw [unitE_length]; omega)]

theorem cell_lt (G H a b : Nat) (ha : a < G) (hb : b < H) : a * H + b < G * H := by
  have : (a + 1) * H ≤ G * H := Nat.mul_le_mul_right H ha
  rw [Nat.add_mul] at this
  omega

/-- no NaN -/
def AllSome (r : List Entry) : Prop := ∀ x ∈ r, ∃ q, x = some q

theorem allSome_unitE (G g : Nat) : AllSome (unitE G g) := by
  intro x hx
  simp only [unitE, rowOfInts, List.mem_map] at hx
  obtain ⟨k, _, rfl⟩ := hx
  exact ⟨_, rfl⟩

theorem allSome_zeroE (w : Nat) : AllSome (zeroE w) := by
  intro x hx
  rw [List.eq_of_mem_replicate hx]
  exact ⟨_, rfl⟩

theorem allSome_map_some (x : List Rat) : AllSome (x.map some) := by
  intro e he
  obtain ⟨q, _, rfl⟩ := List.mem_map.1 he
  exact ⟨q, rfl⟩

theorem rowProd_zeroE_left (w : Nat) (y : List Entry) (hy : AllSome y) :
    rowProd (zeroE w) y = zeroE (w * y.length) := by
  induction w with
  | zero => simp [rowProd, zeroE]
  | succ w ih =>
    simp only [rowProd, zeroE, List.replicate_succ, List.flatMap_cons] at *
    rw [ih, Nat.succ_mul, Nat.add_comm, ← List.replicate_append_replicate]
    congr 1
    rw [List.eq_replicate_iff]
    refine ⟨by simp, ?_⟩
    intro b hb
    simp only [List.mem_map] at hb
    obtain ⟨x, hx, rfl⟩ := hb
    obtain ⟨q, rfl⟩ := hy x hx
    simp [Entry.mul]

theorem rowProd_zeroE_right (x : List Entry) (hx : AllSome x) (w : Nat) :
    rowProd x (zeroE w) = zeroE (x.length * w) := by
  induction x with
  | nil => simp [rowProd, zeroE]
  | cons a x ih =>
    have hx' : AllSome x := fun y hy => hx y (by simp [hy])
    obtain ⟨q, rfl⟩ := hx a (by simp)
    simp only [rowProd, zeroE, List.flatMap_cons, List.length_cons] at *
    rw [ih hx', Nat.succ_mul, Nat.add_comm, ← List.replicate_append_replicate]
    congr 1
    simp [Entry.mul]

theorem entry_one_mul (e : Entry) : Entry.mul (some 1) e = e := by
  cases e <;> simp [Entry.mul]

theorem entry_zero_mul (e : Entry) : Entry.mul (some 0) e = e.map (fun _ => 0) := by
  cases e <;> simp [Entry.mul]

theorem rowProd_one_left (r : List Entry) : rowProd (unitE 1 0) r = r := by
  simp [rowProd, unitE, rowOfInts, unitRow, entry_one_mul]

theorem unitE_append_zero (G g : Nat) (hg : g < G) : unitE G g ++ [some (0 : Rat)] = unitE (G + 1) g := by
  have : ¬ G = g := by omega
  simp [unitE, rowOfInts, unitRow, List.range_succ, this]

theorem zeroE_append_one (G : Nat) : zeroE G ++ [some (1 : Rat)] = unitE (G + 1) G := by
  simp only [unitE, rowOfInts, unitRow, List.range_succ, List.map_append, List.map_map, zeroE]
  congr 1
  · symm
    rw [List.eq_replicate_iff]
    refine ⟨by simp, ?_⟩
    intro b hb
    obtain ⟨k, hk, rfl⟩ := List.mem_map.1 hb
    have : ¬ k = G := by have := List.mem_range.1 hk; omega
    simp [this]
  · simp

def cellCount (G : Nat) (Gs : List Nat) : Nat := Gs.foldl (· * ·) G

/-- mixed-radix index of a cell: `ps` lists (number of levels, level index) of the further
components; the first component varies slowest -/
def cellIndex (g : Nat) (ps : List (Nat × Nat)) : Nat := ps.foldl (fun acc p => acc * p.1 + p.2) g

theorem foldl_rowProd_unitE (ps : List (Nat × Nat)) (G g : Nat) (hg : g < G)
    (hps : ∀ p ∈ ps, p.2 < p.1) :
    (ps.map (fun p => unitE p.1 p.2)).foldl rowProd (unitE G g) =
        unitE (cellCount G (ps.map (·.1))) (cellIndex g ps) ∧
      cellIndex g ps < cellCount G (ps.map (·.1)) := by
  induction ps generalizing G g with
  | nil => exact ⟨rfl, hg⟩
  | cons p ps ih =>
    have hp := hps p (by simp)
    simp only [List.map_cons, List.foldl_cons, cellCount, cellIndex]
    rw [rowProd_unitE_unitE G p.1 g p.2 hp]
    exact ih (G * p.1) (g * p.1 + p.2) (cell_lt G p.1 g p.2 hg hp) (fun q hq => hps q (by simp [hq]))

theorem cellCount_one_cons (G : Nat) (Gs : List Nat) : cellCount 1 (G :: Gs) = cellCount G Gs := by
  simp [cellCount]

theorem cellIndex_zero_cons (p : Nat × Nat) (ps : List (Nat × Nat)) :
    cellIndex 0 (p :: ps) = cellIndex p.2 ps := by
  simp [cellIndex]

theorem cellIndex_lt (ps : List (Nat × Nat)) (hps : ∀ p ∈ ps, p.2 < p.1) :
    cellIndex 0 ps < cellCount 1 (ps.map (·.1)) :=
  (foldl_rowProd_unitE ps 1 0 Nat.one_pos hps).2

theorem foldl_rowProd_zeroE (rs : List (List Entry)) (w : Nat) (hrs : ∀ r ∈ rs, AllSome r) :
    rs.foldl rowProd (zeroE w) = zeroE (cellCount w (rs.map List.length)) := by
  induction rs generalizing w with
  | nil => rfl
  | cons r rs ih =>
    simp only [List.map_cons, List.foldl_cons, cellCount]
    rw [rowProd_zeroE_left w r (hrs r (by simp))]
    exact ih _ (fun q hq => hrs q (by simp [hq]))

theorem allSome_rowProd (a b : List Entry) (ha : AllSome a) (hb : AllSome b) : AllSome (rowProd a b) := by
  intro x hx
  simp only [rowProd, List.mem_flatMap, List.mem_map] at hx
  obtain ⟨p, hp, q, hq, rfl⟩ := hx
  obtain ⟨p', rfl⟩ := ha p hp
  obtain ⟨q', rfl⟩ := hb q hq
  exact ⟨_, rfl⟩

theorem foldl_interactionMatrix_row (ms : List Matrix) (m : Matrix) (r : Nat) (hm : r < m.length)
    (hms : ∀ a ∈ ms, r < a.length) :
    (ms.foldl interactionMatrix m)[r]? =
      some ((ms.map (fun a => a.getD r [])).foldl rowProd (m.getD r [])) := by
  induction ms generalizing m with
  | nil => simp [List.getD_eq_getElem?_getD, List.getElem?_eq_getElem hm]
  | cons a ms ih =>
    have ha := hms a (by simp)
    simp only [List.foldl_cons, List.map_cons]
    have hlen : r < (interactionMatrix m a).length := by
      rw [interactionMatrix_length]; omega
    rw [ih (interactionMatrix m a) hlen (fun b hb => hms b (by simp [hb]))]
    congr 2
    simp only [List.getD_eq_getElem?_getD, List.getElem?_eq_getElem hlen, List.getElem?_eq_getElem hm,
      List.getElem?_eq_getElem ha, Option.getD_some]
    exact interactionMatrix_row m a r hm ha

theorem foldl_interaction_length_le (ms : List Matrix) (m : Matrix) :
    (ms.foldl interactionMatrix m).length ≤ m.length ∧
      ∀ a ∈ ms, (ms.foldl interactionMatrix m).length ≤ a.length := by
  induction ms generalizing m with
  | nil => simp
  | cons a ms ih =>
    obtain ⟨h1, h2⟩ := ih (interactionMatrix m a)
    rw [interactionMatrix_length] at h1
    simp only [List.foldl_cons, List.mem_cons, forall_eq_or_imp]
    exact ⟨by omega, by omega, h2⟩

theorem reduceMatrices_length_le (ms : List Matrix) : ∀ a ∈ ms, (reduceMatrices ms).length ≤ a.length := by
  cases ms with
  | nil => simp
  | cons m ms =>
    obtain ⟨h1, h2⟩ := foldl_interaction_length_le ms m
    simp only [reduceMatrices, List.mem_cons, forall_eq_or_imp]
    exact ⟨h1, h2⟩

/-- `unitE 1 0` is the one-entry row `[1]` -/
theorem reduceMatrices_row (ms : List Matrix) (r : Nat) (hr : r < (reduceMatrices ms).length) :
    (reduceMatrices ms)[r] = (ms.map (fun a => a.getD r [])).foldl rowProd (unitE 1 0) := by
  have hlen := reduceMatrices_length_le ms
  cases ms with
  | nil => simp [reduceMatrices] at hr
  | cons m ms =>
    simp only [List.mem_cons, forall_eq_or_imp] at hlen
    have hrow := foldl_interactionMatrix_row ms m r (by omega) (fun a ha => by have := hlen.2 a ha; omega)
    rw [List.map_cons, List.foldl_cons, rowProd_one_left]
    exact Option.some.inj ((List.getElem?_eq_getElem hr).symm.trans hrow)

end FormulaeModel.Design
