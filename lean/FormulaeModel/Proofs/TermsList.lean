import FormulaeModel.Spec.C02
-- the lemmas of `section generic` are stated with all its variables
set_option linter.unusedSectionVars false
/-
Helper lemmas for C02: first-occurrence de-duplication (`dedup`), the list operations the model
performs on term lists (`addL` = repeated `add_term`, `remL` = repeated `list.remove`) and the
set operations of the specification (`union`, `diff`, `nub`), all on lists.

Everything is normalised to the shape `dedup (some list expression)`.
-/
namespace FormulaeModel.Terms
open FormulaeModel.Spec.C02

section generic
variable {α : Type} [BEq α] [LawfulBEq α]

@[simp] theorem dedup_nil : dedup ([] : List α) = [] := rfl
@[simp] theorem dedup_singleton (a : α) : dedup [a] = [a] := by simp [dedup]

@[simp] theorem mem_dedup {x : α} {l : List α} : x ∈ dedup l ↔ x ∈ l := by
  induction l with
  | nil => simp
  | cons a l ih =>
    simp only [dedup, List.mem_cons, List.mem_filter, ih]
    by_cases h : x = a <;> simp [h]

theorem dedup_filter (p : α → Bool) (l : List α) : dedup (l.filter p) = (dedup l).filter p := by
  induction l with
  | nil => simp
  | cons a l ih =>
    by_cases h : p a
    · simp [dedup, h, ih, List.filter_filter, Bool.and_comm]
    · have h' : p a = false := by simpa using h
      simp only [List.filter_cons, h', dedup, List.filter_filter]
      simp only [Bool.false_eq_true, if_false]
      rw [ih]
      apply List.filter_congr
      intro x _
      by_cases hx : x = a
      · subst hx; simp [h']
      · simp [hx]

theorem dedup_append (a b : List α) :
    dedup (a ++ b) = dedup a ++ (dedup b).filter (fun x => !a.contains x) := by
  induction a with
  | nil => simp only [List.nil_append, dedup_nil]; symm; apply List.filter_eq_self.2; simp
  | cons x a ih =>
    simp only [List.cons_append, dedup, ih, List.filter_append, List.filter_filter]
    congr 2
    apply List.filter_congr
    intro y _
    by_cases hy : y = x
    · subst hy; simp
    · simp [hy]

theorem dedup_sublist (l : List α) : (dedup l).Sublist l := by
  induction l with
  | nil => simp
  | cons a l ih =>
    simp only [dedup]
    exact ((List.filter_sublist).trans ih).cons_cons a

theorem nodup_dedup (l : List α) : (dedup l).Nodup := by
  induction l with
  | nil => simp
  | cons a l ih =>
    simp only [dedup, List.nodup_cons, List.mem_filter]
    refine ⟨by simp, ih.sublist List.filter_sublist⟩

theorem dedup_of_nodup {l : List α} (h : l.Nodup) : dedup l = l := by
  induction l with
  | nil => simp
  | cons a l ih =>
    rw [List.nodup_cons] at h
    simp only [dedup, ih h.2]
    congr 1
    apply List.filter_eq_self.2
    intro x hx
    have : x ≠ a := fun e => h.1 (e ▸ hx)
    simp [this]

@[simp] theorem dedup_dedup (l : List α) : dedup (dedup l) = dedup l :=
  dedup_of_nodup (nodup_dedup l)

theorem nodup_of_dedup_length {l : List α} (h : (dedup l).length = l.length) : l.Nodup := by
  have := (dedup_sublist l).eq_of_length h
  rw [← this]; exact nodup_dedup l

theorem contains_dedup (l : List α) (x : α) : (dedup l).contains x = l.contains x := by
  rw [Bool.eq_iff_iff]; simp

theorem dedup_dedup_append (a b : List α) : dedup (dedup a ++ b) = dedup (a ++ b) := by
  rw [dedup_append, dedup_append, dedup_dedup]
  congr 1
  apply List.filter_congr
  intro x _
  rw [contains_dedup]

theorem dedup_append_dedup (a b : List α) : dedup (a ++ dedup b) = dedup (a ++ b) := by
  rw [dedup_append, dedup_append, dedup_dedup]

theorem dedup_append_self {a : List α} (h : a.Nodup) : dedup (a ++ a) = a := by
  rw [dedup_append, dedup_of_nodup h]
  have : a.filter (fun x => !a.contains x) = [] := by
    apply List.filter_eq_nil_iff.2
    intro x hx; simp [hx]
  rw [this]; simp

theorem union_dedup (a b : List α) : union (dedup a) (dedup b) = dedup (a ++ b) := by
  rw [dedup_append]
  unfold union
  congr 1
  apply List.filter_congr
  intro x _
  rw [contains_dedup]

theorem diff_dedup (a b : List α) :
    diff (dedup a) (dedup b) = dedup (a.filter (fun x => !b.contains x)) := by
  rw [dedup_filter]
  unfold diff
  apply List.filter_congr
  intro x _
  rw [contains_dedup]

theorem nub_eq (l : List α) : nub l = dedup l := rfl

theorem flatMap_filter_block {β : Type} [BEq β] [LawfulBEq β] (g : α → List β) (a : α) (K : List α) :
    ((K.filter (fun x => !(x == a))).flatMap g).filter (fun y => !(g a).contains y) =
    (K.flatMap g).filter (fun y => !(g a).contains y) := by
  induction K with
  | nil => simp
  | cons k K ih =>
    by_cases hk : k = a
    · subst hk
      simp only [List.filter_cons, beq_self_eq_true, Bool.not_true, Bool.false_eq_true, if_false,
        List.flatMap_cons, List.filter_append, ih]
      have : (g k).filter (fun y => !(g k).contains y) = [] := by
        apply List.filter_eq_nil_iff.2
        intro x hx; simp [hx]
      rw [this]; simp
    · have : (k == a) = false := by simpa using hk
      simp only [List.filter_cons, this, Bool.not_false, if_true, List.flatMap_cons,
        List.filter_append, ih]

theorem dedup_flatMap_dedup {β : Type} [BEq β] [LawfulBEq β] (g : α → List β) (l : List α) :
    dedup ((dedup l).flatMap g) = dedup (l.flatMap g) := by
  induction l with
  | nil => simp
  | cons a l ih =>
    have key : ∀ K : List α,
        (dedup ((K.filter (fun x => !(x == a))).flatMap g)).filter (fun y => !(g a).contains y) =
        (dedup (K.flatMap g)).filter (fun y => !(g a).contains y) := by
      intro K
      rw [← dedup_filter, ← dedup_filter, flatMap_filter_block]
    simp only [dedup, List.flatMap_cons]
    rw [dedup_append, dedup_append, ← ih, key]

theorem dedup_flatMap_congr {β : Type} [BEq β] [LawfulBEq β] (f g : α → List β) (l : List α)
    (h : ∀ x ∈ l, dedup (f x) = dedup (g x)) : dedup (l.flatMap f) = dedup (l.flatMap g) := by
  induction l with
  | nil => simp
  | cons a l ih =>
    simp only [List.flatMap_cons]
    rw [dedup_append, dedup_append, h a (by simp), ih (fun x hx => h x (by simp [hx]))]
    congr 1
    apply List.filter_congr
    intro x _
    rw [← contains_dedup (f a), ← contains_dedup (g a), h a (by simp)]

theorem dedup_map_dedup {β : Type} [BEq β] [LawfulBEq β] (f : α → β) (l : List α) :
    dedup ((dedup l).map f) = dedup (l.map f) := by
  have h1 : ∀ k : List α, k.map f = k.flatMap (fun x => [f x]) := by
    intro k; induction k <;> simp_all
  rw [h1, h1, dedup_flatMap_dedup]

theorem dedup_map_of_injective {β : Type} [BEq β] [LawfulBEq β] (f : α → β)
    (hf : ∀ x y, f x = f y → x = y) (l : List α) : dedup (l.map f) = (dedup l).map f := by
  induction l with
  | nil => simp
  | cons a l ih =>
    simp only [List.map_cons, dedup, ih, List.filter_map]
    congr 2
    apply List.filter_congr
    intro x _
    by_cases hx : x = a
    · subst hx; simp
    · have : f x ≠ f a := fun e => hx (hf _ _ e)
      have h1 : (f x == f a) = false := by simpa using this
      have h2 : (x == a) = false := by simpa using hx
      simp [h1, h2]

theorem dedup_flatten_dedup (l : List (List α)) : dedup (dedup l).flatten = dedup l.flatten := by
  have h1 : ∀ k : List (List α), k.flatten = k.flatMap id := by
    intro k; simp [List.flatMap_id]
  rw [h1, h1, dedup_flatMap_dedup]

theorem dedup_eq_singleton {l : List α} {t : α} (hne : l ≠ []) (h : ∀ x ∈ l, x = t) :
    dedup l = [t] := by
  cases l with
  | nil => exact absurd rfl hne
  | cons a l =>
    have ha : a = t := h a (by simp)
    subst ha
    simp only [dedup]
    congr 1
    apply List.filter_eq_nil_iff.2
    intro x hx
    have : x = a := h x (by simp [mem_dedup.1 hx])
    simp [this]

/-- what `for t in B: add_term(t)` does to a term list -/
def addL : List α → List α → List α
  | A, [] => A
  | A, b :: B => addL (if A.contains b then A else A ++ [b]) B

theorem dedup_addL (A B : List α) : dedup (addL A B) = dedup (A ++ B) := by
  induction B generalizing A with
  | nil => simp [addL]
  | cons b B ih =>
    simp only [addL]
    rw [ih]
    by_cases hb : A.contains b
    · simp only [hb, if_true]
      rw [dedup_append, dedup_append]
      congr 1
      simp only [dedup, List.filter_cons, hb, Bool.not_true, Bool.false_eq_true, if_false,
        List.filter_filter]
      apply List.filter_congr
      intro x _
      by_cases hx : x = b
      · subst hx; simpa using hb
      · simp [hx]
    · have hb' : b ∉ A := by simpa using hb
      simp [hb']

theorem mem_addL {x : α} (A B : List α) : x ∈ addL A B ↔ x ∈ A ∨ x ∈ B := by
  rw [← mem_dedup, dedup_addL, mem_dedup, List.mem_append]

theorem nodup_addL {A : List α} (h : A.Nodup) (B : List α) : (addL A B).Nodup := by
  induction B generalizing A with
  | nil => simpa [addL]
  | cons b B ih =>
    simp only [addL]
    apply ih
    by_cases hb : A.contains b
    · simp only [hb, if_true]; exact h
    · simp only [hb, Bool.false_eq_true, if_false]
      rw [List.nodup_append]
      refine ⟨h, by simp, ?_⟩
      intro x hx y hy
      simp at hy; subst hy
      intro e; subst e
      simp [hx] at hb

theorem removeFirst_eq_erase (x : α) (l : List α) : removeFirst x l = l.erase x := by
  induction l with
  | nil => rfl
  | cons a l ih => simp only [removeFirst, List.erase_cons, ih]

theorem removeFirst_sublist (x : α) (l : List α) : (removeFirst x l).Sublist l :=
  removeFirst_eq_erase x l ▸ List.erase_sublist

theorem removeFirst_of_nodup {l : List α} (h : l.Nodup) (x : α) :
    removeFirst x l = l.filter (fun y => !(y == x)) := by
  rw [removeFirst_eq_erase, h.erase_eq_filter]
  rfl

/-- what `for t in B: A.remove(t)` does to a term list -/
def remL (A B : List α) : List α := B.foldl (fun acc t => removeFirst t acc) A

theorem remL_sublist (A B : List α) : (remL A B).Sublist A := by
  unfold remL
  induction B generalizing A with
  | nil => simp
  | cons b B ih => exact (ih _).trans (removeFirst_sublist b A)

theorem remL_of_nodup {A : List α} (h : A.Nodup) (B : List α) :
    remL A B = A.filter (fun x => !B.contains x) := by
  unfold remL
  induction B generalizing A with
  | nil => simp only [List.foldl_nil]; symm; apply List.filter_eq_self.2; simp
  | cons b B ih =>
    simp only [List.foldl_cons]
    rw [ih (h.sublist (removeFirst_sublist b A)), removeFirst_of_nodup h, List.filter_filter]
    apply List.filter_congr
    intro x _
    simp [Bool.and_comm]

theorem remL_singleton (x : α) (B : List α) :
    remL [x] B = if B.contains x then [] else [x] := by
  rw [remL_of_nodup (by simp)]
  by_cases h : x ∈ B <;> simp [h]

end generic
end FormulaeModel.Terms
