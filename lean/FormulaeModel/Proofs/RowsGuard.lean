import FormulaeModel.Proofs.RowsEval
-- the mutual theorems below use their section variables only through each other
set_option linter.unusedSectionVars false
/-
A purely syntactic sufficient condition for the data part of the guard of C06: `D13Free env e`
holds whenever no `C/T/S` call of `e` is written with a `levels` argument and no name in `e`
refers to an ordered categorical column of the training frame.
-/
namespace FormulaeModel.Design

def kwName : Expr → Option String
  | .assign (.variable t) _ _ => some t.lexeme
  | _ => none

def posCount : Args → Nat
  | .nil => 0
  | .last e => if (kwName e).isSome then 0 else 1
  | .more e _ rest => (if (kwName e).isSome then 0 else 1) + posCount rest

def kwNames : Args → List String
  | .nil => []
  | .last e => (kwName e).toList
  | .more e _ rest => (kwName e).toList ++ kwNames rest

def boxCallees : List String := ["C", "T", "S"]

mutual
/-- no `C/T/S` call is written with a third positional argument or a keyword `levels` -/
def NoLevelsArg : Expr → Bool
  | .grouping _ e _ => NoLevelsArg e
  | .unary _ r => NoLevelsArg r
  | .binary l _ r => NoLevelsArg l && NoLevelsArg r
  | .call c _ as _ =>
    NoLevelsArgArgs as &&
    (match c with
     | .variable n =>
       if boxCallees.contains n.lexeme then decide (posCount as ≤ 2) && !(kwNames as).contains "levels"
       else true
     | _ => true)
  | .brace _ e _ => NoLevelsArg e
  | .assign _ _ v => NoLevelsArg v
  | _ => true
def NoLevelsArgArgs : Args → Bool
  | .nil => true
  | .last e => NoLevelsArg e
  | .more e _ rest => NoLevelsArg e && NoLevelsArgArgs rest
end

def unorderedCol (env : Env) (name : String) : Bool :=
  match env.frame.col? name with
  | some c => (match c.kind with
    | .categorical true _ => false
    | _ => true)
  | none => true

mutual
/-- no name in the expression refers to an ordered categorical column of the frame -/
def UnorderedNames (env : Env) : Expr → Bool
  | .grouping _ e _ => UnorderedNames env e
  | .unary _ r => UnorderedNames env r
  | .binary l _ r => UnorderedNames env l && UnorderedNames env r
  | .call _ _ as _ => UnorderedNamesArgs env as
  | .brace _ e _ => UnorderedNames env e
  | .assign _ _ v => UnorderedNames env v
  | .variable n => unorderedCol env n.lexeme
  | .subset n _ _ _ => unorderedCol env n.lexeme
  | .quoted t => unorderedCol env (String.ofList ((t.lexeme.toList.drop 1).dropLast))
  | .literal _ => true
def UnorderedNamesArgs (env : Env) : Args → Bool
  | .nil => true
  | .last e => UnorderedNames env e
  | .more e _ rest => UnorderedNames env e && UnorderedNamesArgs env rest
end

theorem Val.notOrdered_of_scalar {v : Val} (h : v.isScalar = true) : v.notOrdered = true := by
  cases v <;> first | rfl | cases h

theorem lookupName_notOrdered (env : Env) (hn : env.namesScalar = true) (name : String) (v : Val)
    (hu : unorderedCol env name = true) (h : lookupName env name = .ok v) : v.notOrdered = true := by
  rcases lookupName_ok h with ⟨c, hc, rfl⟩ | ⟨-, ⟨k, rfl⟩ | ⟨p, hp, rfl⟩⟩
  · unfold unorderedCol at hu
    rw [hc] at hu
    unfold colVal
    cases hk : c.kind with
    | categorical o cats => cases o <;> first | rfl | (simp only [hk] at hu; cases hu)
    | _ => rfl
  · rfl
  · exact Val.notOrdered_of_scalar (List.all_eq_true.1 hn p hp)

theorem vecOp_notOrdered (f : Rat → Rat → Option Rat) (a b c : Val) (h : vecOp f a b = .ok c) :
    c.notOrdered = true := by
  rcases vecOp_ok h with ⟨xs, i, rfl⟩ | ⟨q, i, rfl⟩ <;> rfl

abbrev CallArgs.unordered (a : CallArgs) : Prop := a.all (Val.notOrdered · = true)

theorem err_bind {α β : Type} (e : Err) (f : α → M β) :
    ((Except.error e : M α) >>= f) = Except.error e := rfl

theorem binaryFn_notOrdered (x s v : Val) (h : binaryFn x s = .ok v) : v.notOrdered = true := by
  obtain ⟨ys, rfl, -⟩ := binaryFn_ok h
  rfl

theorem proportionFn_notOrdered (s t v : Val) (h : proportionFn s t = .ok v) : v.notOrdered = true := by
  obtain ⟨_, _, _, _, -, -, -, -, -, rfl⟩ := proportionFn_ok.1 h
  rfl

theorem finishCall_notOrdered (callee : String) (a : CallArgs) (own : Option Rat) (v : Val) (o : Option Rat)
    (ha : a.unordered) (h : finishCall callee a own = .ok (v, o)) : v.notOrdered = true := by
  cases CallOk.of_finishCall h with
  | ident hp => exact ha.1 _ (by simp [hp])
  | binary _ hv => exact binaryFn_notOrdered _ _ _ hv
  | prop _ hv => exact proportionFn_notOrdered _ _ _ hv
  | _ => rfl

theorem CallArgs.push_pos_length (acc : CallArgs) (k : Option String) (x : Val) :
    (acc.push k x).pos.length = acc.pos.length + (if k.isSome then 0 else 1) := by
  cases k <;> simp [CallArgs.push]

theorem CallArgs.push_kw_names (acc : CallArgs) (k : Option String) (x : Val) :
    (acc.push k x).kw.map (·.1) = acc.kw.map (·.1) ++ k.toList := by
  cases k <;> simp [CallArgs.push]

section
variable (env : Env) (hn : env.namesScalar = true)
include hn

theorem evalArg_unordered_both :
    (∀ e ts kw v t, evalArg env e ts = .ok (kw, v, t) → UnorderedNames env e = true →
      v.notOrdered = true ∧ kw = kwName e) ∧
    (∀ as ts i acc a sts, evalArgs env as ts i acc = .ok (a, sts) →
      UnorderedNamesArgs env as = true → acc.unordered →
      a.unordered ∧ a.pos.length = acc.pos.length + posCount as ∧
        a.kw.map (·.1) = acc.kw.map (·.1) ++ kwNames as) := by
  refine evalArg_induct env
    (grouping := fun _ _ _ _ _ _ _ ih hu => ⟨(ih hu).1, rfl⟩)
    (name := ?_)
    (literal := fun _ _ _ h _ => ⟨Val.notOrdered_of_scalar (evalArg_literal_ok h).2.2.1, rfl⟩)
    (unary := fun _ _ _ _ _ _ _ ih hv hu => ⟨unaryVal_keeps (fun _ _ => rfl) (fun f a b c _ _ => vecOp_notOrdered f a b c) (ih hu).1 hv, rfl⟩)
    (binary := fun _ _ _ _ _ _ _ _ _ _ iha _ ihb hv hu =>
      have hu := Bool.and_eq_true_iff.1 hu
      ⟨binopVal_keeps (fun _ _ => rfl) (fun f a b c _ _ => vecOp_notOrdered f a b c) (iha hu.1).1 (ihb hu.2).1 hv, rfl⟩)
    (call := fun _ _ _ _ _ _ _ _ _ _ ih h hu =>
      ⟨finishCall_notOrdered _ _ _ _ _ (ih hu (CallArgs.all_nil _)).1 h, rfl⟩)
    (brace := fun _ _ _ _ _ _ _ ih hu => ⟨(ih hu).1, rfl⟩)
    (assign := fun _ _ _ _ _ _ _ ih hu => ⟨(ih hu).1, rfl⟩)
    (nil := fun _ _ _ _ hacc => ⟨hacc, rfl, (List.append_nil _).symm⟩)
    (last := ?_) (more := ?_)
  · intro e s ts v he h hu
    cases e <;> simp only [leafName, Option.some.injEq, reduceCtorEq] at he <;> subst he <;>
      exact ⟨lookupName_notOrdered env hn _ v hu h, rfl⟩
  · intro e ts i acc k x st _ ih hu hacc
    obtain ⟨hx, rfl⟩ := ih hu
    exact ⟨CallArgs.all_push _ hacc hx, CallArgs.push_pos_length .., CallArgs.push_kw_names ..⟩
  · intro e c rest ts i acc k x st a sts _ ih _ ihr hu hacc
    have hu : UnorderedNames env e = true ∧ UnorderedNamesArgs env rest = true :=
      Bool.and_eq_true_iff.1 hu
    obtain ⟨hx, rfl⟩ := ih hu.1
    obtain ⟨ha, hp, hk⟩ := ihr hu.2 (CallArgs.all_push _ hacc hx)
    rw [CallArgs.push_pos_length, Nat.add_assoc] at hp
    rw [CallArgs.push_kw_names, List.append_assoc] at hk
    exact ⟨ha, hp, hk⟩

theorem evalArgs_unordered : ∀ (as : Args), UnorderedNamesArgs env as = true →
    ∀ (ts : Option TS) (i : Nat) (acc a : CallArgs) (sts : List TS), acc.unordered →
      evalArgs env as ts i acc = .ok (a, sts) →
      a.unordered ∧ a.pos.length = acc.pos.length + posCount as ∧
        a.kw.map (·.1) = acc.kw.map (·.1) ++ kwNames as :=
  fun as hu ts i acc a sts hacc h => (evalArg_unordered_both env hn).2 as ts i acc a sts h hu hacc
end


theorem CallArgs.get_levels_none (a : CallArgs) (hp : a.pos.length ≤ 2)
    (hk : "levels" ∉ a.kw.map (·.1)) : a.get 2 "levels" = .pyNone := by
  simp only [CallArgs.get]
  rw [List.getElem?_eq_none (by omega)]
  have : List.find? (fun x => x.1 == "levels") a.kw = none := by
    rw [List.find?_eq_none]
    intro p hp' hpe
    apply hk
    simp only [List.mem_map]
    exact ⟨p, hp', by simpa using hpe⟩
  simp [this]

theorem d13ArgsOk_of_written {callee : String} {a : CallArgs} (hu : a.unordered)
    (h : boxCallees.contains callee = true → a.pos.length ≤ 2 ∧ "levels" ∉ a.kw.map (·.1)) :
    d13ArgsOk callee a = true := by
  have hcond : (callee == "C" || callee == "T" || callee == "S") = boxCallees.contains callee := by
    simp only [boxCallees, List.contains_cons, List.contains_nil, Bool.or_false, Bool.or_assoc]
  unfold d13ArgsOk
  rw [hcond]
  split
  · obtain ⟨hp, hk⟩ := h ‹_›
    rw [CallArgs.get_levels_none a hp hk]
    exact Bool.and_eq_true_iff.2 ⟨rfl, CallArgs.all_get hu rfl 0 "data"⟩
  · rfl

section
variable (env : Env) (hn : env.namesScalar = true)
include hn

mutual
theorem d13Free_of_syntactic : ∀ (e : Expr), NoLevelsArg e = true → UnorderedNames env e = true →
    D13Free env e = true
  | .grouping _ e _, h1, h2 => d13Free_of_syntactic e h1 h2
  | .unary _ r, h1, h2 => d13Free_of_syntactic r h1 h2
  | .binary l _ r, h1, h2 =>
    have h1 : NoLevelsArg l = true ∧ NoLevelsArg r = true := Bool.and_eq_true_iff.1 h1
    have h2 : UnorderedNames env l = true ∧ UnorderedNames env r = true := Bool.and_eq_true_iff.1 h2
    Bool.and_eq_true_iff.2 ⟨d13Free_of_syntactic l h1.1 h2.1, d13Free_of_syntactic r h1.2 h2.2⟩
  | .call c _ as _, h1, h2 => by
    have h1 := Bool.and_eq_true_iff.1 h1
    refine Bool.and_eq_true_iff.2 ⟨d13FreeArgs_of_syntactic as h1.1 h2, ?_⟩
    cases c with
    | «variable» n =>
      show (match evalArgs env as none 0 ⟨[], []⟩ with
        | .ok (a, _) => d13ArgsOk n.lexeme a
        | .error _ => true) = true
      cases he : evalArgs env as none 0 ⟨[], []⟩ with
      | error _ => rfl
      | ok r =>
        obtain ⟨a, sts⟩ := r
        obtain ⟨hu, hp, hk⟩ := evalArgs_unordered env hn as h2 none 0 ⟨[], []⟩ a sts
          (CallArgs.all_nil _) he
        have h12 : (if boxCallees.contains n.lexeme then
            decide (posCount as ≤ 2) && !(kwNames as).contains "levels" else true) = true := h1.2
        refine d13ArgsOk_of_written hu fun hb => ?_
        rw [if_pos hb, Bool.and_eq_true, decide_eq_true_eq, Bool.not_eq_true'] at h12
        rw [hp, hk, List.length_nil, Nat.zero_add, List.map_nil, List.nil_append,
          ← List.contains_iff_mem, h12.2]
        exact ⟨h12.1, Bool.false_ne_true⟩
    | _ => rfl
  | .brace _ e _, h1, h2 => d13Free_of_syntactic e h1 h2
  | .assign _ _ v, h1, h2 => d13Free_of_syntactic v h1 h2
  | .variable _, _, _ => rfl
  | .subset _ _ _ _, _, _ => rfl
  | .quoted _, _, _ => rfl
  | .literal _, _, _ => rfl
theorem d13FreeArgs_of_syntactic : ∀ (as : Args), NoLevelsArgArgs as = true →
    UnorderedNamesArgs env as = true → D13FreeArgs env as = true
  | .nil, _, _ => rfl
  | .last e, h1, h2 => d13Free_of_syntactic e h1 h2
  | .more e _ rest, h1, h2 =>
    have h1 : NoLevelsArg e = true ∧ NoLevelsArgArgs rest = true := Bool.and_eq_true_iff.1 h1
    have h2 : UnorderedNames env e = true ∧ UnorderedNamesArgs env rest = true :=
      Bool.and_eq_true_iff.1 h2
    Bool.and_eq_true_iff.2 ⟨d13Free_of_syntactic e h1.1 h2.1, d13FreeArgs_of_syntactic rest h1.2 h2.2⟩
end
end


end FormulaeModel.Design
