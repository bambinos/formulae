import FormulaeModel.Model.Frame
/-
`sorted(set(xs))` does not depend on the order of `xs`: `dedupL` of permuted lists gives permuted
lists, and for a strict total order the sorted permutation of a list is unique
(`List.Perm.eq_of_pairwise`); `Level.lt?` is one on all-string and on all-integer lists.
-/
namespace FormulaeModel

theorem mem_dedupL {α : Type} [DecidableEq α] (xs : List α) (a : α) : a ∈ dedupL xs ↔ a ∈ xs := by
  induction xs with
  | nil => simp [dedupL]
  | cons x xs ih =>
    simp only [dedupL]
    split
    · rename_i h
      have hx : x ∈ xs := by simpa using h
      rw [ih]
      constructor
      · intro h; exact List.mem_cons_of_mem _ h
      · intro h
        rcases List.mem_cons.1 h with rfl | h
        · exact hx
        · exact h
    · simp [ih]

theorem nodup_dedupL {α : Type} [DecidableEq α] (xs : List α) : (dedupL xs).Nodup := by
  induction xs with
  | nil => simp [dedupL]
  | cons x xs ih =>
    simp only [dedupL]
    split
    · exact ih
    · rename_i h
      have hx : x ∉ xs := by simpa using h
      exact List.nodup_cons.2 ⟨by rwa [mem_dedupL], ih⟩

theorem dedupL_perm {α : Type} [DecidableEq α] {xs ys : List α} (h : xs.Perm ys) :
    (dedupL xs).Perm (dedupL ys) := by
  rw [List.perm_ext_iff_of_nodup (nodup_dedupL xs) (nodup_dedupL ys)]
  intro a
  rw [mem_dedupL, mem_dedupL]
  exact h.mem_iff

theorem all_perm {α : Type} (p : α → Bool) {xs ys : List α} (h : xs.Perm ys) : xs.all p = ys.all p :=
  h.all_eq

theorem any_perm {α : Type} (p : α → Bool) {xs ys : List α} (h : xs.Perm ys) : xs.any p = ys.any p :=
  h.any_eq

theorem perm_insertBy {α : Type} (lt : α → α → Bool) (x : α) (l : List α) :
    (insertBy lt x l).Perm (x :: l) := by
  induction l with
  | nil => simp [insertBy]
  | cons y ys ih =>
    simp only [insertBy]
    split
    · exact List.Perm.refl _
    · exact (List.Perm.cons y ih).trans (List.Perm.swap x y ys)

theorem perm_sortBy {α : Type} (lt : α → α → Bool) (xs : List α) : (sortBy lt xs).Perm xs := by
  induction xs with
  | nil => simp [sortBy]
  | cons x xs ih =>
    simp only [sortBy, List.foldr_cons] at ih ⊢
    exact (perm_insertBy lt x _).trans (List.Perm.cons x ih)

structure StrictTotalOn {α : Type} (lt : α → α → Bool) (P : α → Prop) : Prop where
  asymm : ∀ a b, P a → P b → lt a b = true → lt b a = false
  trans : ∀ a b c, P a → P b → P c → lt a b = true → lt b c = true → lt a c = true
  tri : ∀ a b, P a → P b → lt a b = false → lt b a = false → a = b

/-- sorted: no later element is strictly below an earlier one -/
def SortedBy {α : Type} (lt : α → α → Bool) (l : List α) : Prop :=
  l.Pairwise (fun a b => lt b a = false)

theorem sorted_insertBy {α : Type} (lt : α → α → Bool) (P : α → Prop) (ho : StrictTotalOn lt P)
    (x : α) (l : List α) (hx : P x) (hl : ∀ a ∈ l, P a) (hs : SortedBy lt l) :
    SortedBy lt (insertBy lt x l) := by
  induction l with
  | nil => simp [insertBy, SortedBy]
  | cons y ys ih =>
    have hy := hl y (by simp)
    have hys : ∀ a ∈ ys, P a := fun a ha => hl a (by simp [ha])
    simp only [SortedBy, List.pairwise_cons] at hs
    simp only [insertBy]
    split
    · rename_i hxy
      simp only [SortedBy, List.pairwise_cons]
      refine ⟨?_, hs⟩
      intro z hz
      rcases List.mem_cons.1 hz with rfl | hz
      · exact ho.asymm x z hx hy hxy
      · cases hzx : lt z x with
        | false => rfl
        | true =>
          have := ho.trans z x y (hys z hz) hx hy hzx hxy
          rw [hs.1 z hz] at this
          exact absurd this (by simp)
    · rename_i hxy
      have hxy' : lt x y = false := by simpa using hxy
      simp only [SortedBy, List.pairwise_cons]
      refine ⟨?_, ih hys hs.2⟩
      intro z hz
      rcases List.mem_cons.1 ((perm_insertBy lt x ys).mem_iff.1 hz) with rfl | hz
      · exact hxy'
      · exact hs.1 z hz

theorem sorted_sortBy {α : Type} (lt : α → α → Bool) (P : α → Prop) (ho : StrictTotalOn lt P)
    (xs : List α) (hl : ∀ a ∈ xs, P a) : SortedBy lt (sortBy lt xs) := by
  induction xs with
  | nil => simp [sortBy, SortedBy]
  | cons x xs ih =>
    have hxs : ∀ a ∈ xs, P a := fun a ha => hl a (by simp [ha])
    simp only [sortBy, List.foldr_cons] at ih ⊢
    apply sorted_insertBy lt P ho x _ (hl x (by simp)) _ (ih hxs)
    intro a ha
    exact hxs a ((perm_sortBy lt xs).mem_iff.1 ha)

theorem sortBy_perm {α : Type} (lt : α → α → Bool) (P : α → Prop) (ho : StrictTotalOn lt P)
    {xs ys : List α} (hp : xs.Perm ys) (hl : ∀ a ∈ xs, P a) : sortBy lt xs = sortBy lt ys := by
  have hl' : ∀ a ∈ ys, P a := fun a ha => hl a (hp.mem_iff.2 ha)
  apply List.Perm.eq_of_pairwise (le := fun a b => lt b a = false)
  · intro a b ha hb h1 h2
    exact ho.tri a b (hl a ((perm_sortBy lt xs).mem_iff.1 ha)) (hl' b ((perm_sortBy lt ys).mem_iff.1 hb)) h2 h1
  · exact sorted_sortBy lt P ho xs hl
  · exact sorted_sortBy lt P ho ys hl'
  · exact (perm_sortBy lt xs).trans (hp.trans (perm_sortBy lt ys).symm)

def Level.isS : Level → Bool
  | .s _ => true
  | _ => false

def Level.isN : Level → Bool
  | .n _ => true
  | _ => false

def levelLt (a b : Level) : Bool := (a.lt? b).getD false

theorem levelLt_strings : StrictTotalOn levelLt (fun l => l.isS = true) where
  asymm := by
    intro a b ha hb h
    cases a <;> cases b <;> simp_all [Level.isS, levelLt, Level.lt?]
    exact String.lt_asymm h
  trans := by
    intro a b c ha hb hc h1 h2
    cases a <;> cases b <;> cases c <;> simp_all [Level.isS, levelLt, Level.lt?]
    exact String.lt_trans h1 h2
  tri := by
    intro a b ha hb h1 h2
    cases a <;> cases b <;> simp_all [Level.isS, levelLt, Level.lt?]
    exact String.le_antisymm h2 h1

theorem levelLt_ints : StrictTotalOn levelLt (fun l => l.isN = true) where
  asymm := by
    intro a b ha hb h
    cases a <;> cases b <;> simp_all [Level.isN, levelLt, Level.lt?]
    omega
  trans := by
    intro a b c ha hb hc h1 h2
    cases a <;> cases b <;> cases c <;> simp_all [Level.isN, levelLt, Level.lt?]
    omega
  tri := by
    intro a b ha hb h1 h2
    cases a <;> cases b <;> simp_all [Level.isN, levelLt, Level.lt?]
    omega

theorem sortLevels_eq (ls : List Level) :
    sortLevels ls =
      if (dedupL ls).all Level.isS || (dedupL ls).all Level.isN then some (sortBy levelLt (dedupL ls))
      else none := by
  rfl

/-- the `TypeError` for mixed types included -/
theorem sortLevels_perm {xs ys : List Level} (h : xs.Perm ys) : sortLevels xs = sortLevels ys := by
  have hd := dedupL_perm h
  rw [sortLevels_eq, sortLevels_eq, all_perm Level.isS hd, all_perm Level.isN hd]
  split
  · rename_i hc
    congr 1
    rw [Bool.or_eq_true, List.all_eq_true, List.all_eq_true] at hc
    rcases hc with hc | hc
    · exact sortBy_perm levelLt _ levelLt_strings hd (fun a ha => hc a (hd.mem_iff.1 ha))
    · exact sortBy_perm levelLt _ levelLt_ints hd (fun a ha => hc a (hd.mem_iff.1 ha))
  · rfl

theorem ratLt_order : StrictTotalOn (fun (a b : Rat) => decide (a < b)) (fun _ => True) where
  asymm := by
    intro a b _ _ h
    simp only [decide_eq_true_eq, decide_eq_false_iff_not] at h ⊢
    exact Rat.not_lt.2 (Rat.le_of_lt h)
  trans := by
    intro a b c _ _ _ h1 h2
    simp only [decide_eq_true_eq] at h1 h2 ⊢
    exact Std.lt_trans h1 h2
  tri := by
    intro a b _ _ h1 h2
    simp only [decide_eq_false_iff_not, Rat.not_lt] at h1 h2
    exact Rat.le_antisymm h2 h1

theorem sortRat_perm {xs ys : List Rat} (h : xs.Perm ys) :
    sortBy (fun (a b : Rat) => decide (a < b)) xs = sortBy (fun (a b : Rat) => decide (a < b)) ys :=
  sortBy_perm _ _ ratLt_order h (fun _ _ => trivial)

theorem sortLevels_spec (ls levels : List Level) (h : sortLevels ls = some levels) :
    levels.Nodup ∧ (∀ l, l ∈ levels ↔ l ∈ ls) ∧ SortedBy levelLt levels := by
  rw [sortLevels_eq] at h
  split at h
  · rename_i hc
    simp only [Option.some.injEq] at h
    subst h
    have hp := perm_sortBy levelLt (dedupL ls)
    refine ⟨hp.nodup_iff.2 (nodup_dedupL ls), fun l => (hp.mem_iff).trans (mem_dedupL ls l), ?_⟩
    rw [Bool.or_eq_true, List.all_eq_true, List.all_eq_true] at hc
    rcases hc with hc | hc
    · exact sorted_sortBy levelLt _ levelLt_strings _ hc
    · exact sorted_sortBy levelLt _ levelLt_ints _ hc
  · simp at h

end FormulaeModel
