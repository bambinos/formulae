import FormulaeModel.Model.Parser
import FormulaeModel.Proofs.ExceptLemmas
/-
`*_ok`: which successful sub-calls a successful call of each parser function is made of; hence
the yield of the returned tree, followed by the rest, is the input.
-/
namespace FormulaeModel.Parser

variable (T : Table)

structure YieldAt (n : Nat) : Prop where
  expression : ∀ ts e r, expression T n ts = .ok (e, r) → e.flat ++ r = ts
  assignment : ∀ ts e r, assignment T n ts = .ok (e, r) → e.flat ++ r = ts
  tilde : ∀ ts e r, tilde T n ts = .ok (e, r) → e.flat ++ r = ts
  binLevel : ∀ lv ts e r, binLevel T n lv ts = .ok (e, r) → e.flat ++ r = ts
  binLoop : ∀ ops lv acc ts e r, binLoop T n ops lv acc ts = .ok (e, r) → e.flat ++ r = acc.flat ++ ts
  unary : ∀ ts e r, unary T n ts = .ok (e, r) → e.flat ++ r = ts
  call : ∀ ts e r, call T n ts = .ok (e, r) → e.flat ++ r = ts
  callLoop : ∀ acc ts e r, callLoop T n acc ts = .ok (e, r) → e.flat ++ r = acc.flat ++ ts
  argList : ∀ ts a r, argList T n ts = .ok (a, r) → a.flat ++ r = ts
  primary : ∀ ts e r, primary T n ts = .ok (e, r) → e.flat ++ r = ts

theorem consume_ok {k : Kind} {ts : List Token} {t : Token} {r : List Token}
    (h : consume k ts = .ok (t, r)) : ts = t :: r ∧ t.kind = k := by
  unfold consume at h
  split at h
  · split at h
    · cases h; exact ⟨rfl, ‹_›⟩
    · cases h
  · cases h

theorem consume_bind_ok {β : Type} {k : Kind} {ts : List Token} {f : Token × List Token → Except ParseErr β}
    {b : β} (h : (consume k ts >>= f) = .ok b) : ∃ t r, ts = t :: r ∧ t.kind = k ∧ f (t, r) = .ok b := by
  obtain ⟨⟨t, r⟩, h1, h⟩ := of_bind_ok h
  exact ⟨t, r, (consume_ok h1).1, (consume_ok h1).2, h⟩

section ok
variable {T} {n : Nat} {ts r : List Token} {e : Expr}

theorem assignment_ok (h : assignment T (n + 1) ts = .ok (e, r)) :
    ∃ l ts1, tilde T n ts = .ok (l, ts1) ∧
      ((e = l ∧ r = ts1) ∨ ∃ t ts2 v, ts1 = t :: ts2 ∧ t.kind = .EQUAL ∧ isVariable l = true ∧
        binLevel T n (T.levels.drop T.tildeRight) ts2 = .ok (v, r) ∧ e = .assign l t v) := by
  rw [assignment] at h
  obtain ⟨⟨l, ts1⟩, h1, h⟩ := of_bind_ok h
  refine ⟨l, ts1, h1, ?_⟩
  rcases ts1 with _ | ⟨t, ts2⟩
  · cases h; exact .inl ⟨rfl, rfl⟩
  · dsimp only at h
    split at h
    · obtain ⟨⟨v, ts3⟩, h2, h⟩ := of_bind_ok h
      dsimp only at h
      split at h
      · cases h; exact .inr ⟨_, _, v, rfl, ‹_›, ‹_›, h2, rfl⟩
      · cases h
    · cases h; exact .inl ⟨rfl, rfl⟩

theorem tilde_ok (h : tilde T (n + 1) ts = .ok (e, r)) :
    ∃ l ts1, binLevel T n T.levels ts = .ok (l, ts1) ∧
      ((e = l ∧ r = ts1) ∨ ∃ t ts2 v, ts1 = t :: ts2 ∧ t.kind = .TILDE ∧
        binLevel T n (T.levels.drop T.tildeRight) ts2 = .ok (v, r) ∧ e = .binary l t v) := by
  rw [tilde] at h
  obtain ⟨⟨l, ts1⟩, h1, h⟩ := of_bind_ok h
  refine ⟨l, ts1, h1, ?_⟩
  rcases ts1 with _ | ⟨t, ts2⟩
  · cases h; exact .inl ⟨rfl, rfl⟩
  · dsimp only at h
    split at h
    · obtain ⟨⟨v, ts3⟩, h2, h⟩ := of_bind_ok h
      cases h; exact .inr ⟨_, _, v, rfl, ‹_›, h2, rfl⟩
    · cases h; exact .inl ⟨rfl, rfl⟩

theorem binLevel_ok {ops : List Kind} {rest : List (List Kind)} {p : Expr × List Token}
    (h : binLevel T (n + 1) (ops :: rest) ts = .ok p) :
    ∃ l ts1, binLevel T n rest ts = .ok (l, ts1) ∧ binLoop T n ops rest l ts1 = .ok p := by
  rw [binLevel] at h
  obtain ⟨⟨l, ts1⟩, h1, h⟩ := of_bind_ok h
  exact ⟨l, ts1, h1, h⟩

theorem binLoop_ok {ops : List Kind} {rest : List (List Kind)} {acc : Expr}
    (h : binLoop T (n + 1) ops rest acc ts = .ok (e, r)) :
    (e = acc ∧ r = ts) ∨ ∃ t ts1 v ts2, ts = t :: ts1 ∧ ops.contains t.kind = true ∧
      binLevel T n rest ts1 = .ok (v, ts2) ∧ binLoop T n ops rest (.binary acc t v) ts2 = .ok (e, r) := by
  rcases ts with _ | ⟨t, ts1⟩ <;> rw [binLoop] at h
  · cases h; exact .inl ⟨rfl, rfl⟩
  · split at h
    · obtain ⟨⟨v, ts2⟩, h1, h⟩ := of_bind_ok h
      exact .inr ⟨_, _, v, ts2, rfl, ‹_›, h1, h⟩
    · cases h; exact .inl ⟨rfl, rfl⟩

theorem unary_ok (h : unary T (n + 1) ts = .ok (e, r)) :
    call T n ts = .ok (e, r) ∨ ∃ t ts1 v, ts = t :: ts1 ∧ T.unaryOps.contains t.kind = true ∧
      unary T n ts1 = .ok (v, r) ∧ e = .unary t v := by
  rcases ts with _ | ⟨t, ts1⟩ <;> rw [unary] at h
  · exact .inl h
  · split at h
    · obtain ⟨⟨v, ts2⟩, h1, h⟩ := of_bind_ok h
      cases h; exact .inr ⟨_, _, v, rfl, ‹_›, h1, rfl⟩
    · exact .inl h

theorem call_ok {p : Expr × List Token} (h : call T (n + 1) ts = .ok p) :
    ∃ c ts1, primary T n ts = .ok (c, ts1) ∧ callLoop T n c ts1 = .ok p := by
  rw [call] at h
  obtain ⟨⟨c, ts1⟩, h1, h⟩ := of_bind_ok h
  exact ⟨c, ts1, h1, h⟩

theorem callLoop_ok {acc : Expr} (h : callLoop T (n + 1) acc ts = .ok (e, r)) :
    (e = acc ∧ r = ts) ∨ ∃ t ts1 as rp ts4, ts = t :: ts1 ∧ t.kind = .LEFT_PAREN ∧
      rp.kind = .RIGHT_PAREN ∧ ((as = .nil ∧ ts1 = rp :: ts4) ∨ argList T n ts1 = .ok (as, rp :: ts4)) ∧
      callLoop T n (.call acc t as rp) ts4 = .ok (e, r) := by
  rcases ts with _ | ⟨t, _ | ⟨u, ts2⟩⟩ <;> rw [callLoop] at h
  · cases h; exact .inl ⟨rfl, rfl⟩
  all_goals
    split at h
    case isFalse => cases h; exact .inl ⟨rfl, rfl⟩
  · obtain ⟨⟨as, ts3⟩, h1, h⟩ := of_bind_ok h
    obtain ⟨rp, ts4, rfl, hrp, h⟩ := consume_bind_ok h
    exact .inr ⟨t, _, as, rp, ts4, rfl, ‹_›, hrp, .inr h1, h⟩
  · split at h
    · exact .inr ⟨t, _, .nil, u, ts2, rfl, ‹_›, ‹_›, .inl ⟨rfl, rfl⟩, h⟩
    · obtain ⟨⟨as, ts3⟩, h1, h⟩ := of_bind_ok h
      obtain ⟨rp, ts4, rfl, hrp, h⟩ := consume_bind_ok h
      exact .inr ⟨t, _, as, rp, ts4, rfl, ‹_›, hrp, .inr h1, h⟩

theorem argList_ok {a : Args} (h : argList T (n + 1) ts = .ok (a, r)) :
    ∃ e ts1, expression T n ts = .ok (e, ts1) ∧
      ((a = .last e ∧ r = ts1) ∨ ∃ t ts2 rest, ts1 = t :: ts2 ∧ t.kind = .COMMA ∧
        argList T n ts2 = .ok (rest, r) ∧ a = .more e t rest) := by
  rw [argList] at h
  obtain ⟨⟨e, ts1⟩, h1, h⟩ := of_bind_ok h
  refine ⟨e, ts1, h1, ?_⟩
  rcases ts1 with _ | ⟨t, ts2⟩
  · cases h; exact .inl ⟨rfl, rfl⟩
  · dsimp only at h
    split at h
    · obtain ⟨⟨v, ts3⟩, h2, h⟩ := of_bind_ok h
      cases h; exact .inr ⟨_, _, v, rfl, ‹_›, h2, rfl⟩
    · cases h; exact .inl ⟨rfl, rfl⟩

/-- side conditions as in `Spec.C01.stratBin` -/
theorem primary_ok (h : primary T (n + 1) ts = .ok (e, r)) :
    ∃ t ts1, ts = t :: ts1 ∧
      ((t.kind = .IDENTIFIER ∧ e = .variable t ∧ r = ts1) ∨
       (∃ lb ts2 lv rb, t.kind = .IDENTIFIER ∧ ts1 = lb :: ts2 ∧ lb.kind = .LEFT_BRACKET ∧
          primary T n ts2 = .ok (lv, rb :: r) ∧ subsetLevelOk lv = true ∧ rb.kind = .RIGHT_BRACKET ∧
          e = .subset t lb lv rb) ∨
       ((t.kind = .NUMBER ∨ t.kind = .STRING ∨ t.kind = .PYTHON_LITERAL) ∧ e = .literal t ∧ r = ts1) ∨
       (t.kind = .BQNAME ∧ e = .quoted t ∧ r = ts1) ∨
       (∃ b rp, t.kind = .LEFT_PAREN ∧ expression T n ts1 = .ok (b, rp :: r) ∧
          rp.kind = .RIGHT_PAREN ∧ e = .grouping t b rp) ∨
       (∃ b rb, t.kind = .LEFT_BRACE ∧ expression T n ts1 = .ok (b, rb :: r) ∧
          rb.kind = .RIGHT_BRACE ∧ e = .brace t b rb)) := by
  rcases ts with _ | ⟨t, ts1⟩
  · rw [primary] at h; cases h
  refine ⟨t, ts1, rfl, ?_⟩
  rw [primary.eq_def] at h
  dsimp only at h
  split at h
  · rcases ts1 with _ | ⟨lb, ts2⟩
    · cases h; exact .inl ⟨‹_›, rfl, rfl⟩
    · dsimp only at h
      split at h
      · obtain ⟨⟨lv, ts3⟩, h1, h⟩ := of_bind_ok h
        dsimp only at h
        split at h
        · obtain ⟨rb, ts4, rfl, hrb, h⟩ := consume_bind_ok h
          cases h; exact .inr (.inl ⟨lb, ts2, lv, rb, ‹_›, rfl, ‹_›, h1, ‹_›, hrb, rfl⟩)
        · cases h
      · cases h; exact .inl ⟨‹_›, rfl, rfl⟩
  · cases h; exact .inr (.inr (.inl ⟨.inl ‹_›, rfl, rfl⟩))
  · cases h; exact .inr (.inr (.inl ⟨.inr (.inl ‹_›), rfl, rfl⟩))
  · cases h; exact .inr (.inr (.inl ⟨.inr (.inr ‹_›), rfl, rfl⟩))
  · cases h; exact .inr (.inr (.inr (.inl ⟨‹_›, rfl, rfl⟩)))
  · obtain ⟨⟨b, ts2⟩, h1, h⟩ := of_bind_ok h
    obtain ⟨rp, ts3, rfl, hrp, h⟩ := consume_bind_ok h
    cases h; exact .inr (.inr (.inr (.inr (.inl ⟨b, rp, ‹_›, h1, hrp, rfl⟩))))
  · obtain ⟨⟨b, ts2⟩, h1, h⟩ := of_bind_ok h
    obtain ⟨rb, ts3, rfl, hrb, h⟩ := consume_bind_ok h
    cases h; exact .inr (.inr (.inr (.inr (.inr ⟨b, rb, ‹_›, h1, hrb, rfl⟩))))
  · cases h

theorem parseFuel_ok {e : Expr} (h : parseFuel T n ts = .ok e) :
    ∃ r, expression T n ts = .ok (e, r) ∧ (T.eofCheck = true → r = []) := by
  unfold parseFuel at h
  obtain ⟨⟨e', r⟩, h1, h⟩ := of_bind_ok h
  dsimp only at h
  split at h
  · split at h
    · cases h; exact ⟨_, h1, fun _ => rfl⟩
    · cases h
  · cases h; exact ⟨r, h1, fun hc => absurd hc ‹_›⟩

end ok

theorem yieldAt_succ (n : Nat) (ih : YieldAt T n) : YieldAt T (n + 1) where
  expression ts e r h := ih.assignment ts e r (by rwa [expression] at h)
  assignment ts e r h := by
    obtain ⟨l, ts1, h1, ⟨rfl, rfl⟩ | ⟨t, ts2, v, rfl, -, -, h2, rfl⟩⟩ := assignment_ok h
    · exact ih.tilde _ _ _ h1
    · rw [← ih.tilde _ _ _ h1, ← ih.binLevel _ _ _ _ h2, Expr.flat, List.append_assoc, List.cons_append]
  tilde ts e r h := by
    obtain ⟨l, ts1, h1, ⟨rfl, rfl⟩ | ⟨t, ts2, v, rfl, -, h2, rfl⟩⟩ := tilde_ok h
    · exact ih.binLevel _ _ _ _ h1
    · rw [← ih.binLevel _ _ _ _ h1, ← ih.binLevel _ _ _ _ h2, Expr.flat, List.append_assoc, List.cons_append]
  binLevel lv ts e r h := by
    cases lv with
    | nil => exact ih.unary ts e r (by rwa [binLevel] at h)
    | cons ops rest =>
      obtain ⟨l, ts1, h1, h2⟩ := binLevel_ok h
      rw [ih.binLoop _ _ _ _ _ _ h2, ih.binLevel _ _ _ _ h1]
  binLoop ops lv acc ts e r h := by
    obtain ⟨rfl, rfl⟩ | ⟨t, ts1, v, ts2, rfl, -, h1, h2⟩ := binLoop_ok h
    · rfl
    · rw [ih.binLoop _ _ _ _ _ _ h2, ← ih.binLevel _ _ _ _ h1, Expr.flat, List.append_assoc, List.cons_append]
  unary ts e r h := by
    obtain h | ⟨t, ts1, v, rfl, -, h1, rfl⟩ := unary_ok h
    · exact ih.call _ _ _ h
    · rw [← ih.unary _ _ _ h1, Expr.flat, List.cons_append]
  call ts e r h := by
    obtain ⟨c, ts1, h1, h2⟩ := call_ok h
    rw [ih.callLoop _ _ _ _ h2, ih.primary _ _ _ h1]
  callLoop acc ts e r h := by
    obtain ⟨rfl, rfl⟩ | ⟨t, ts1, as, rp, ts4, rfl, -, -, ha, h2⟩ := callLoop_ok h
    · rfl
    · have : as.flat ++ rp :: ts4 = ts1 := by
        obtain ⟨rfl, rfl⟩ | ha := ha
        · rfl
        · exact ih.argList _ _ _ ha
      rw [ih.callLoop _ _ _ _ h2, ← this]
      simp [Expr.flat]
  argList ts a r h := by
    obtain ⟨e, ts1, h1, ⟨rfl, rfl⟩ | ⟨t, ts2, rest, rfl, -, h2, rfl⟩⟩ := argList_ok h
    · exact ih.expression _ _ _ h1
    · rw [← ih.expression _ _ _ h1, ← ih.argList _ _ _ h2, Args.flat, List.append_assoc, List.cons_append]
  primary ts e r h := by
    obtain ⟨t, ts1, rfl, ⟨-, rfl, rfl⟩ | ⟨lb, ts2, lv, rb, -, rfl, -, h1, -, -, rfl⟩ | ⟨-, rfl, rfl⟩ |
      ⟨-, rfl, rfl⟩ | ⟨b, rp, -, h1, -, rfl⟩ | ⟨b, rb, -, h1, -, rfl⟩⟩ := primary_ok h
    · rfl
    · rw [← ih.primary _ _ _ h1]; simp [Expr.flat]
    · rfl
    · rfl
    · rw [← ih.expression _ _ _ h1]; simp [Expr.flat]
    · rw [← ih.expression _ _ _ h1]; simp [Expr.flat]

theorem yieldAt (n : Nat) : YieldAt T n := by
  induction n with
  | zero => constructor <;> intros <;> contradiction
  | succ n ih => exact yieldAt_succ T n ih

end FormulaeModel.Parser
