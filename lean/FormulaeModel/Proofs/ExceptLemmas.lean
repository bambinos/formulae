/-
Computations in `Except`: when a bind returns `.ok`, traversals with `List.mapM`, and
postconditions (`Post x P`: every value `x` can return satisfies `P`).
-/
namespace FormulaeModel

theorem bind_ok {ε α β : Type} (x : Except ε α) (f : α → Except ε β) (b : β) :
    (x >>= f) = .ok b ↔ ∃ a, x = .ok a ∧ f a = .ok b := by
  cases x with
  | error e => exact ⟨fun h => (nomatch h), fun ⟨_, h, _⟩ => (nomatch h)⟩
  | ok a => exact ⟨fun h => ⟨a, rfl, h⟩, fun ⟨_, h, hf⟩ => by cases h; exact hf⟩

theorem of_bind_ok {ε α β : Type} {x : Except ε α} {f : α → Except ε β} {b : β}
    (h : (x >>= f) = .ok b) : ∃ a, x = .ok a ∧ f a = .ok b :=
  (bind_ok x f b).1 h

theorem pure_ok {ε α : Type} (a b : α) : (pure a : Except ε α) = .ok b ↔ a = b :=
  ⟨fun h => by cases h; rfl, fun h => h ▸ rfl⟩

theorem ok_bind {ε α β : Type} (a : α) (f : α → Except ε β) : (Except.ok a >>= f) = f a := rfl

theorem err_bind {ε α β : Type} (e : ε) (f : α → Except ε β) :
    ((Except.error e : Except ε α) >>= f) = .error e := rfl

theorem bind_congr_ok {ε α β : Type} {x : Except ε α} {f g : α → Except ε β}
    (h : ∀ a, x = .ok a → f a = g a) : x >>= f = x >>= g := by
  cases x with
  | error _ => rfl
  | ok a => exact h a rfl

/-- case analysis on a conditional with a known value (cheaper to check than `split at h`) -/
theorem of_ite_eq {α : Type} {c : Prop} [Decidable c] {x y r : α} {P : Prop}
    (h : (if c then x else y) = r) (hx : x = r → P) (hy : y = r → P) : P := by
  by_cases hc : c
  · exact hx (by rwa [if_pos hc] at h)
  · exact hy (by rwa [if_neg hc] at h)

theorem mapM_cons_ok {ε α β : Type} (f : α → Except ε β) (x : α) (xs : List α) (ys : List β) :
    (x :: xs).mapM f = .ok ys ↔ ∃ y, f x = .ok y ∧ ∃ ys', xs.mapM f = .ok ys' ∧ y :: ys' = ys := by
  rw [List.mapM_cons]
  simp only [bind_ok, pure_ok]

theorem mapM_congr_mem {ε α β : Type} (f g : α → Except ε β) (xs : List α) (h : ∀ x ∈ xs, f x = g x) :
    xs.mapM f = xs.mapM g := by
  induction xs with
  | nil => rfl
  | cons x xs ih =>
    rw [List.mapM_cons, List.mapM_cons, h x (by simp), ih (fun y hy => h y (by simp [hy]))]

theorem mapM_ok_get {ε α β : Type} (f : α → Except ε β) (xs : List α) (ys : List β)
    (h : xs.mapM f = .ok ys) :
    ys.length = xs.length ∧ ∀ i (hi : i < xs.length) (hi' : i < ys.length), f xs[i] = .ok ys[i] := by
  induction xs generalizing ys with
  | nil => cases h; exact ⟨rfl, fun _ hi => nomatch hi⟩
  | cons x xs ih =>
    obtain ⟨y, hy, ys', hys', rfl⟩ := (mapM_cons_ok f x xs ys).1 h
    obtain ⟨hl, hall⟩ := ih ys' hys'
    refine ⟨congrArg (· + 1) hl, fun i hi hi' => ?_⟩
    cases i with
    | zero => exact hy
    | succ i => exact hall i (Nat.lt_of_succ_lt_succ hi) (Nat.lt_of_succ_lt_succ hi')

theorem mapM_forall {ε α β : Type} (f : α → Except ε β) (P : β → Prop) (xs : List α) (ys : List β)
    (hxs : xs.mapM f = .ok ys) (hstep : ∀ x ∈ xs, ∀ y, f x = .ok y → P y) : ∀ y ∈ ys, P y := by
  induction xs generalizing ys with
  | nil => cases hxs; nofun
  | cons x xs ih =>
    obtain ⟨y, hy, ys', hys', rfl⟩ := (mapM_cons_ok f x xs ys).1 hxs
    obtain ⟨hx, hxs'⟩ := List.forall_mem_cons.1 hstep
    exact List.forall_mem_cons.2 ⟨hx y hy, ih ys' hys' hxs'⟩

theorem mapM_mem {ε α β : Type} (f : α → Except ε β) (xs : List α) (ys : List β)
    (h : xs.mapM f = .ok ys) : ∀ y ∈ ys, ∃ x ∈ xs, f x = .ok y :=
  mapM_forall f (fun y => ∃ x ∈ xs, f x = .ok y) xs ys h fun x hx _ hy => ⟨x, hx, hy⟩

theorem mapM_mem_of {ε α β : Type} (f : α → Except ε β) (xs : List α) (ys : List β)
    (h : xs.mapM f = .ok ys) : ∀ x ∈ xs, ∃ y ∈ ys, f x = .ok y := by
  induction xs generalizing ys with
  | nil => nofun
  | cons x xs ih =>
    obtain ⟨y, hy, ys', hys', rfl⟩ := (mapM_cons_ok f x xs ys).1 h
    exact List.forall_mem_cons.2 ⟨⟨y, List.mem_cons_self, hy⟩,
      fun x' hx' => (ih ys' hys' x' hx').imp fun _ hy => ⟨List.mem_cons_of_mem _ hy.1, hy.2⟩⟩

theorem mapM_ok_of {ε α β : Type} (f g : α → Except ε β) (k : β → β) (xs : List α) (ys : List β)
    (hxs : xs.mapM f = .ok ys) (hstep : ∀ x ∈ xs, ∀ y, f x = .ok y → g x = .ok (k y)) :
    xs.mapM g = .ok (ys.map k) := by
  induction xs generalizing ys with
  | nil => cases hxs; rfl
  | cons x xs ih =>
    obtain ⟨y, hy, ys', hys', rfl⟩ := (mapM_cons_ok f x xs ys).1 hxs
    obtain ⟨hx, hxs'⟩ := List.forall_mem_cons.1 hstep
    exact (mapM_cons_ok g x xs _).2 ⟨_, hx y hy, _, ih ys' hys' hxs', rfl⟩

theorem mapM_ok_map {ε α β δ : Type} (f : α → Except ε β) (g : β → Except ε δ) (k : β → δ)
    (xs : List α) (ys : List β) (hxs : xs.mapM f = .ok ys)
    (hstep : ∀ x ∈ xs, ∀ y, f x = .ok y → g y = .ok (k y)) : ys.mapM g = .ok (ys.map k) := by
  induction xs generalizing ys with
  | nil => cases hxs; rfl
  | cons x xs ih =>
    obtain ⟨y, hy, ys', hys', rfl⟩ := (mapM_cons_ok f x xs ys).1 hxs
    obtain ⟨hx, hxs'⟩ := List.forall_mem_cons.1 hstep
    exact (mapM_cons_ok g _ _ _).2 ⟨_, hx y hy, _, ih ys' hys' hxs', rfl⟩

theorem map_fst_pair {ε α σ} (x : Except ε α) (s : σ) :
    (x >>= fun o => pure (o, s)).map (·.1) = x := by
  cases x <;> rfl

theorem mapM_map_fst {α β γ ε} {f : α → Except ε (β × γ)} {g : α → Except ε β}
    (hfg : ∀ x, (f x).map (·.1) = g x) : ∀ (xs : List α),
    (xs.mapM f).map (fun ys => ys.map (·.1)) = xs.mapM g
  | [] => rfl
  | x :: xs => by
    rw [List.mapM_cons, List.mapM_cons, ← hfg x, ← mapM_map_fst hfg xs]
    cases f x with
    | error e => rfl
    | ok y => cases xs.mapM f <;> rfl

def Post {ε α} (x : Except ε α) (P : α → Prop) : Prop := ∀ a, x = .ok a → P a

theorem Post.mono {ε α} {x : Except ε α} {P Q : α → Prop} (h : Post x P) (hPQ : ∀ a, P a → Q a) :
    Post x Q := fun a ha => hPQ a (h a ha)

theorem post_pure {ε α} {a : α} {P : α → Prop} : Post (pure a : Except ε α) P ↔ P a :=
  ⟨fun h => h a rfl, fun h _ e => by cases e; exact h⟩

theorem post_error {ε α} {e : ε} {P : α → Prop} : Post (.error e : Except ε α) P ↔ True :=
  ⟨fun _ => trivial, fun _ _ h => nomatch h⟩

theorem post_bind {ε α β} {x : Except ε α} {f : α → Except ε β} {P : β → Prop} :
    Post (x >>= f) P ↔ Post x (fun a => Post (f a) P) := by
  cases x with
  | error e => exact Iff.intro (fun _ _ h => nomatch h) (fun _ _ h => nomatch h)
  | ok a => exact ⟨fun h _ e => by cases e; exact h, fun h => h a rfl⟩

theorem post_map {ε α β} {x : Except ε α} {f : α → β} {P : β → Prop} :
    Post (x.map f) P ↔ Post x (fun a => P (f a)) := by
  cases x with
  | error e => exact Iff.intro (fun _ _ h => nomatch h) (fun _ _ h => nomatch h)
  | ok a => exact ⟨fun h _ e => by cases e; exact h _ rfl, fun h _ e => by cases e; exact h a rfl⟩

theorem post_true {ε α} {x : Except ε α} : Post x (fun _ => True) ↔ True :=
  ⟨fun _ => trivial, fun _ _ _ => trivial⟩

theorem post_ite {ε α} {c : Prop} [Decidable c] {x y : Except ε α} {P : α → Prop} :
    Post (if c then x else y) P ↔ (c → Post x P) ∧ (¬c → Post y P) := by
  split <;> simp [*]

theorem post_mapM {ε α β : Type} {f : α → Except ε β} {Q : β → Prop} {xs : List α}
    (hf : ∀ x ∈ xs, Post (f x) Q) : Post (xs.mapM f) (fun ys => ∀ y ∈ ys, Q y) :=
  fun ys h => mapM_forall f Q xs ys h hf

theorem post_mapM_snd {ε α β : Type} {f : α → Except ε (β × α)} :
    ∀ {xs : List α}, (∀ x ∈ xs, Post (f x) (fun y => y.2 = x)) →
      Post (xs.mapM f) (fun ys => ys.map (·.2) = xs)
  | [], _, ys, h => by cases h; rfl
  | x :: xs, hf, ys, h => by
    obtain ⟨y, hy, ys', hys, rfl⟩ := (mapM_cons_ok f x xs ys).1 h
    have ih := post_mapM_snd (fun x hx => hf x (by simp [hx])) ys' hys
    simpa using ⟨hf x (by simp) y hy, ih⟩

end FormulaeModel
