import FormulaeModel.Model.Matrices
import FormulaeModel.Proofs.ExceptLemmas
/-
Selecting rows: of a column (`pick`), of the values of lazy evaluation (`Val.rows`), of frames and
environments (`Env.rows`); where `lookupName` gets a value from, and that it commutes with row
selection.
-/
namespace FormulaeModel.Design

theorem ok_bind {ε α β : Type} (a : α) (f : α → Except ε β) : ((Except.ok a : Except ε α) >>= f) = f a := rfl

/-- entries `is` of a column, in that order (`d` stands for an index outside the column) -/
def pick {α : Type} (is : List Nat) (d : α) (xs : List α) : List α := is.map (fun i => xs.getD i d)

@[simp] theorem pick_length {α : Type} (is : List Nat) (d : α) (xs : List α) :
    (pick is d xs).length = is.length := by simp [pick]

theorem getD_map {α β : Type} (f : α → β) (xs : List α) (i : Nat) (d : α) :
    (xs.map f).getD i (f d) = f (xs.getD i d) := by
  simp only [List.getD_eq_getElem?_getD, List.getElem?_map]
  cases xs[i]? <;> rfl

theorem pick_map {α β : Type} (f : α → β) (is : List Nat) (d : α) (xs : List α) :
    pick is (f d) (xs.map f) = (pick is d xs).map f := by
  simp [pick]

theorem pick_default {α : Type} (is : List Nat) (d d' : α) (xs : List α)
    (h : ∀ i ∈ is, i < xs.length) : pick is d xs = pick is d' xs := by
  simp only [pick]
  apply List.map_congr_left
  intro i hi
  simp [List.getD_eq_getElem?_getD, List.getElem?_eq_getElem (h i hi)]

theorem mem_pick {α : Type} (is : List Nat) (d : α) (xs : List α) (h : ∀ i ∈ is, i < xs.length)
    (x : α) (hx : x ∈ pick is d xs) : x ∈ xs := by
  simp only [pick, List.mem_map] at hx
  obtain ⟨i, hi, rfl⟩ := hx
  have := h i hi
  simp [List.getD_eq_getElem?_getD, List.getElem?_eq_getElem this]

theorem pick_replicate {α : Type} (is : List Nat) (d a : α) (n : Nat) (h : ∀ i ∈ is, i < n) :
    pick is d (List.replicate n a) = List.replicate is.length a := by
  induction is with
  | nil => rfl
  | cons i is ih =>
    have hi := h i (by simp)
    simp only [pick, List.map_cons, List.length_cons, List.replicate_succ] at *
    rw [ih (fun j hj => h j (by simp [hj]))]
    simp [List.getD_eq_getElem?_getD, hi]

theorem mapM_pick {α β : Type} (f : α → M β) (xs : List α) (ys : List β) (is : List Nat) (d : α) (d' : β)
    (h : xs.mapM f = .ok ys) (his : ∀ i ∈ is, i < xs.length) :
    (pick is d xs).mapM f = .ok (pick is d' ys) := by
  have key := mapM_ok_get f xs ys h
  induction is with
  | nil => simp [pick, pure, Except.pure]
  | cons i is ih =>
    have hi := his i (by simp)
    have hi' : i < ys.length := by omega
    simp only [pick, List.map_cons] at ih ⊢
    rw [List.mapM_cons, ih (fun j hj => his j (by simp [hj]))]
    have : f (xs.getD i d) = .ok (ys.getD i d') := by
      simp only [List.getD_eq_getElem?_getD, List.getElem?_eq_getElem hi, List.getElem?_eq_getElem hi',
        Option.getD_some]
      exact key.2 i hi hi'
    rw [this]; rfl

def Val.rows (is : List Nat) : Val → Val
  | .vec xs b => .vec (pick is none xs) b
  | .lvec xs d => .lvec (pick is none xs) d
  | .box b => .box { b with data := pick is none b.data }
  | .offsetVar xs => .offsetVar (pick is none xs)
  | .prop ss ts c => .prop (pick is none ss) (pick is none ts) c
  | v => v

/-- values that have no rows (what the caller's namespace may hold in this model) -/
def Val.isScalar : Val → Bool
  | .num .. | .str .. | .pyNone | .bool .. | .levels .. | .contrast .. | .offsetConst .. => true
  | _ => false

theorem Val.rows_scalar (is : List Nat) (v : Val) (h : v.isScalar = true) : v.rows is = v := by
  cases v <;> simp_all [Val.rows, Val.isScalar]

def Env.rows (env : Env) (is : List Nat) : Env := { env with frame := env.frame.rows is }

def Env.namesScalar (env : Env) : Bool := env.names.all (fun p => p.2.isScalar)

/-- vector-like values have `n` rows; a `CategoricalBox` carries no explicit levels (the D13 guard
of C06 keeps this true: explicit levels are checked against the set of the data, which a selection
of rows changes; without them no check is made, `mkBox_plain`) -/
def Val.good (n : Nat) : Val → Prop
  | .vec xs _ => xs.length = n
  | .lvec xs _ => xs.length = n
  | .box b => b.data.length = n ∧ b.levels = none
  | .offsetVar xs => xs.length = n
  | .prop ss ts _ => ss.length = n ∧ ts.length = n
  | _ => True

theorem Val.good_of_scalar {n : Nat} {v : Val} (h : v.isScalar = true) : v.good n := by
  cases v <;> first | trivial | cases h

def colRows (c : Column) (is : List Nat) : Column :=
  { c with cells := pick is .na c.cells }

theorem frame_rows_eq (f : Frame) (is : List Nat) : f.rows is = f.map (colRows · is) := rfl

theorem frame_col?_rows (f : Frame) (is : List Nat) (name : String) :
    (f.rows is).col? name = (f.col? name).map (colRows · is) := by
  simp only [Frame.col?, frame_rows_eq, List.find?_map]
  rfl

theorem colVal_rows (c : Column) (is : List Nat) : colVal (colRows c is) = (colVal c).rows is := by
  unfold colVal colRows
  cases c.kind <;> simp only [Val.rows] <;> rw [← pick_map]

theorem frame_col?_length (f : Frame) (hwf : f.wellFormed = true) (name : String) (c : Column)
    (h : f.col? name = some c) : c.cells.length = f.nrows := by
  have := List.mem_of_find?_eq_some h
  simp only [Frame.wellFormed, List.all_eq_true] at hwf
  simpa using hwf c this

theorem frame_nrows_rows (f : Frame) (is : List Nat) (h : ∀ i ∈ is, i < f.nrows) :
    (f.rows is).nrows = is.length := by
  cases f with
  | nil =>
    cases is with
    | nil => rfl
    | cons i is => have := h i (by simp); simp [Frame.nrows] at this
  | cons c f => simp [Frame.rows, Frame.nrows]

theorem colVal_good (c : Column) : (colVal c).good c.cells.length := by
  unfold colVal
  cases c.kind <;> simp [Val.good]

theorem lookupName_ok {env : Env} {name : String} {v : Val} (h : lookupName env name = .ok v) :
    (∃ c, env.frame.col? name = some c ∧ v = colVal c) ∨
      (env.frame.col? name = none ∧ ((∃ k, v = .contrast k) ∨ ∃ p ∈ env.names, v = p.2)) := by
  unfold lookupName at h
  split at h
  · cases h; exact .inl ⟨_, ‹_›, rfl⟩
  · refine .inr ⟨‹_›, ?_⟩
    split at h
    · cases h; exact .inl ⟨_, rfl⟩
    split at h
    · cases h; exact .inl ⟨_, rfl⟩
    split at h
    · cases h; exact .inr ⟨_, List.mem_of_find?_eq_some ‹_›, rfl⟩
    · cases h

theorem lookupName_rows_eq (env : Env) (hn : env.namesScalar = true) (is : List Nat) (name : String) :
    lookupName (env.rows is) name = (lookupName env name).map (Val.rows is) := by
  unfold lookupName
  rw [show (env.rows is).frame.col? name = _ from frame_col?_rows env.frame is name]
  cases env.frame.col? name with
  | some c => exact congrArg Except.ok (colVal_rows c is)
  | none =>
    show (if name == "Treatment" then _ else _) = Except.map _ (if name == "Treatment" then _ else _)
    split
    · rfl
    split
    · rfl
    show (match env.names.find? _ with | some p => _ | none => _) = _
    cases hf : env.names.find? (·.1 == name) with
    | none => rfl
    | some p =>
      have := List.all_eq_true.1 hn p (List.mem_of_find?_eq_some hf)
      exact congrArg Except.ok (Val.rows_scalar is p.2 this).symm

theorem lookupName_rows (env : Env) (hn : env.namesScalar = true) (is : List Nat) (name : String) (v : Val)
    (h : lookupName env name = .ok v) : lookupName (env.rows is) name = .ok (v.rows is) := by
  rw [lookupName_rows_eq env hn, h]; rfl

theorem lookupName_good (env : Env) (hwf : env.frame.wellFormed = true) (hn : env.namesScalar = true)
    (name : String) (v : Val) (h : lookupName env name = .ok v) : v.good env.frame.nrows := by
  rcases lookupName_ok h with ⟨c, hc, rfl⟩ | ⟨-, ⟨k, rfl⟩ | ⟨p, hp, rfl⟩⟩
  · exact frame_col?_length env.frame hwf name c hc ▸ colVal_good c
  · trivial
  · exact Val.good_of_scalar (List.all_eq_true.1 hn p hp)

end FormulaeModel.Design
