import FormulaeModel.Proofs.Callees
/-
Lazy evaluation keeps the number of rows: every vector-like value `evalArg` returns, on the first
evaluation or a later one, has `env.frame.nrows` entries, provided the frame is rectangular and
the vector-like values of the caller's namespace have that many.
-/
namespace FormulaeModel.Design

/-- vector-like values have `n` entries (scalars, lists of levels, encodings: no condition) -/
def Val.sized (n : Nat) : Val → Bool
  | .vec xs _ => xs.length == n
  | .lvec xs _ => xs.length == n
  | .box b => b.data.length == n
  | .offsetVar xs => xs.length == n
  | .prop ss ts _ => ss.length == n && ts.length == n
  | _ => true

def Env.namesSized (env : Env) (n : Nat) : Bool := env.names.all (fun p => p.2.sized n)

theorem Val.sized_of_scalar (v : Val) (n : Nat) (h : v.isScalar = true) : v.sized n = true := by
  cases v <;> simp_all [Val.sized, Val.isScalar]

theorem Env.namesSized_of_scalar (env : Env) (n : Nat) (h : env.namesScalar = true) :
    env.namesSized n = true := by
  simp only [Env.namesScalar, Env.namesSized, List.all_eq_true] at h ⊢
  intro p hp
  exact Val.sized_of_scalar _ _ (h p hp)

theorem colVal_sized (c : Column) : (colVal c).sized c.cells.length = true := by
  unfold colVal
  cases c.kind <;> simp [Val.sized]

theorem lookupName_sized (env : Env) (hwf : env.frame.wellFormed = true)
    (hn : env.namesSized env.frame.nrows = true) (name : String) (v : Val)
    (h : lookupName env name = .ok v) : v.sized env.frame.nrows = true := by
  rcases lookupName_ok h with ⟨c, hc, rfl⟩ | ⟨-, ⟨k, rfl⟩ | ⟨p, hp, rfl⟩⟩
  · exact frame_col?_length env.frame hwf name c hc ▸ colVal_sized c
  · rfl
  · exact List.all_eq_true.1 hn p hp

theorem vecOp_sized (f : Rat → Rat → Option Rat) (a b c : Val) (n : Nat) (ha : a.sized n = true)
    (hb : b.sized n = true) (h : vecOp f a b = .ok c) : c.sized n = true := by
  unfold vecOp at h
  split at h
  · simp only [pure, Except.pure, Except.ok.injEq] at h; subst h
    simp only [Val.sized, beq_iff_eq] at *; simp [ha, hb]
  · simp only [pure, Except.pure, Except.ok.injEq] at h; subst h
    simp only [Val.sized, beq_iff_eq] at *; simp [ha]
  · simp only [pure, Except.pure, Except.ok.injEq] at h; subst h
    simp only [Val.sized, beq_iff_eq] at *; simp [hb]
  · split at h
    · simp only [pure, Except.pure, Except.ok.injEq] at h; subst h; simp [Val.sized]
    · simp at h
  · simp at h

def CallArgs.sized (n : Nat) (a : CallArgs) : Prop :=
  (∀ v ∈ a.pos, v.sized n = true) ∧ (∀ p ∈ a.kw, p.2.sized n = true)

theorem CallArgs.sized_iff_all {n : Nat} {a : CallArgs} : a.sized n ↔ a.all (Val.sized n · = true) :=
  .rfl

theorem mkBox_data (data : List (Option Level)) (decl : Option (Bool × List String))
    (contrast : Option Contrast) (levels : Option (List Level)) (b : Box)
    (h : mkBox data decl contrast levels = .ok b) : b.data = data := by
  unfold mkBox at h
  simp only at h
  split at h
  · split at h
    · simp at h
    · split at h
      · simp only [pure, Except.pure, Except.ok.injEq] at h; subst h; rfl
      · simp at h
  · simp only [pure, Except.pure, Except.ok.injEq] at h; subst h; rfl

theorem dataLevels_length (d : Val) (n : Nat) (hg : d.sized n = true) (xs : List (Option Level))
    (decl : Option (Bool × List String)) (h : dataLevels d = .ok (xs, decl)) : xs.length = n := by
  rcases dataLevels_ok h with rfl | ⟨ys, rfl, rfl, -⟩ <;> simpa [Val.sized] using hg

theorem binaryFn_sized (x s v : Val) (n : Nat) (hx : x.sized n = true) (h : binaryFn x s = .ok v) :
    v.sized n = true := by
  obtain ⟨ys, rfl, ⟨xs, b, rfl, hl⟩ | ⟨xs, d, rfl, hl⟩⟩ := binaryFn_ok h <;>
    simpa [Val.sized, hl] using hx

theorem trialsOf_sized {n : Nat} {t : Val} {ts : List Entry} {c : Option Rat} (ht : t.sized n = true)
    (h : trialsOf n t = .ok (ts, c)) : ts.length = n := by
  rcases trialsOf_ok h with ⟨b, rfl, -⟩ | ⟨q, -, rfl, -⟩
  · simpa [Val.sized] using ht
  · exact List.length_replicate

theorem proportionFn_sized (s t v : Val) (n : Nat) (hs : s.sized n = true) (ht : t.sized n = true)
    (h : proportionFn s t = .ok v) : v.sized n = true := by
  obtain ⟨ss, b, ts, c, rfl, htr, -, -, -, rfl⟩ := proportionFn_ok.1 h
  have hss : ss.length = n := by simpa [Val.sized] using hs
  simp [Val.sized, hss, trialsOf_sized ht (hss ▸ htr)]

theorem finishCall_sized (callee : String) (a : CallArgs) (n : Nat) (own : Option Rat) (v : Val)
    (own' : Option Rat) (hg : a.sized n) (h : finishCall callee a own = .ok (v, own')) :
    v.sized n = true := by
  have pos : ∀ {x}, a.pos = [x] → x.sized n = true := fun hp => hg.1 _ (by simp [hp])
  have data := CallArgs.all_get (CallArgs.sized_iff_all.1 hg) rfl 0 "data"
  cases CallOk.of_finishCall h with
  | ident hp => exact pos hp
  | center hp => simpa [Val.sized] using pos hp
  | box _ _ hd hb => simpa [Val.sized, mkBox_data _ _ _ _ _ hb] using dataLevels_length _ n data _ _ hd
  | rebox hd _ _ hb => rw [hd] at data; simpa [Val.sized, mkBox_data _ _ _ _ _ hb] using data
  | offsetVar hp => simpa [Val.sized] using pos hp
  | binary _ hv => exact binaryFn_sized _ _ _ n (CallArgs.all_get (CallArgs.sized_iff_all.1 hg) rfl 0 "x") hv
  | prop _ hv =>
    exact proportionFn_sized _ _ _ n (CallArgs.all_get (CallArgs.sized_iff_all.1 hg) rfl 0 "successes")
      (CallArgs.all_get (CallArgs.sized_iff_all.1 hg) rfl 1 "trials") hv
  | _ => rfl

section
variable (env : Env) (hwf : env.frame.wellFormed = true)
  (hn : env.namesSized env.frame.nrows = true)
include hwf hn

theorem evalArg_sized_both :
    (∀ e ts kw v t, evalArg env e ts = .ok (kw, v, t) → v.sized env.frame.nrows = true) ∧
    (∀ as ts i acc a sts, evalArgs env as ts i acc = .ok (a, sts) →
      acc.sized env.frame.nrows → a.sized env.frame.nrows) :=
  evalArg_induct env
    (grouping := fun _ _ _ _ _ _ _ ih => ih)
    (name := fun _ s _ v _ h => lookupName_sized env hwf hn s v h)
    (literal := fun _ _ _ h => Val.sized_of_scalar _ _ (evalArg_literal_ok h).2.2.1)
    (unary := fun _ _ _ _ _ _ _ ih h =>
      unaryVal_keeps (fun _ _ => rfl) (fun f a b c => vecOp_sized f a b c _) ih h)
    (binary := fun _ _ _ _ _ _ _ _ _ _ iha _ ihb h =>
      binopVal_keeps (fun _ _ => rfl) (fun f a b c => vecOp_sized f a b c _) iha ihb h)
    (call := fun _ _ _ _ _ args _ v own _ ih h =>
      finishCall_sized _ args _ _ v own (ih (CallArgs.all_nil _)) h)
    (brace := fun _ _ _ _ _ _ _ ih => ih)
    (assign := fun _ _ _ _ _ _ _ ih => ih)
    (nil := fun _ _ _ h => h)
    (last := fun _ _ _ _ k _ _ _ ih hacc => CallArgs.all_push k hacc ih)
    (more := fun _ _ _ _ _ _ k _ _ _ _ _ ih _ ihr hacc => ihr (CallArgs.all_push k hacc ih))

theorem evalArg_sized : ∀ (e : Expr) (ts : Option TS) (kw : Option String) (v : Val) (t : TS),
    evalArg env e ts = .ok (kw, v, t) → v.sized env.frame.nrows = true :=
  (evalArg_sized_both env hwf hn).1

theorem evalArgs_sized : ∀ (as : Args) (ts : Option TS) (i : Nat) (acc a : CallArgs) (sts : List TS),
    acc.sized env.frame.nrows → evalArgs env as ts i acc = .ok (a, sts) → a.sized env.frame.nrows :=
  fun as ts i acc a sts hacc h => (evalArg_sized_both env hwf hn).2 as ts i acc a sts h hacc
end

end FormulaeModel.Design
