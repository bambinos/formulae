import FormulaeModel.Proofs.TermsGroup
/-
C02, layer 6: the right-hand side that starts with the implicit `1 +`, item by item, and the
whole formula read through `semOfModel`.
-/
namespace FormulaeModel.Resolver
open FormulaeModel.Terms FormulaeModel.Spec.C02

inductive ItemVal : Bool → Item → Obj → Prop
  | addI : ItemVal true .addI (.c .intercept)
  | remI0 : ItemVal true .remI (.c .negIntercept)
  | remI1 : ItemVal false .remI (.c .intercept)
  | plain (s : Bool) (p : PV) (ts : List STerm) (h : ∀ t, t ∈ p.list ↔ t ∈ ts) :
      ItemVal s (.plain s ts) p.toObj
  | grp (s : Bool) (rv : Obj) (Lg : List GTerm) (gs' : List SG) (hv : GroupVal rv Lg)
      (hwf : ∀ g ∈ Lg, ∃ x, sgOf g = some x)
      (hL : ∀ x, (∃ g ∈ Lg, sgOf g = some x) ↔ x ∈ gs') : ItemVal s (.grp s gs') rv

theorem item_val {s : Bool} {r : Expr} {it : Item} {rv : Obj} (h : topItem (s, r) = some it)
    (hr : resolve docOps r = .ok rv) (hng : NoGap r) (h3 : itemD3 r = false) :
    ItemVal s it rv := by
  unfold topItem at h
  simp only at h
  cases hlit : literalItem s r with
  | some i =>
    simp only [hlit, Option.some.injEq] at h
    subst h
    rcases literal_val hlit hr with ⟨rfl, rfl, rfl⟩ | ⟨rfl, rfl, rfl⟩ | ⟨rfl, rfl, rfl⟩
    · exact .addI
    · exact .remI0
    · exact .remI1
  | none =>
    simp only [hlit] at h
    have plainCase : ∀ ts, denT r = some ts → it = .plain s ts → ItemVal s it rv := by
      intro ts hd hit
      obtain ⟨p, rfl, hp⟩ := plain_val hd hr hng
      rw [hit]; exact .plain s p ts hp
    by_cases hgx : isGroupExpr r = true
    · simp only [hgx, if_true] at h
      cases hd : denG r with
      | none => simp [hd] at h
      | some gs' =>
        simp only [hd, Option.map_some, Option.some.injEq] at h
        subst h
        obtain ⟨Lg, hv, hwf, hL⟩ := grp_val hd hr hng h3
        exact .grp s rv Lg gs' hv hwf hL
    · simp only [hgx, Bool.false_eq_true, if_false] at h
      -- for a grouping `topItem` tests `isGroupExpr` once more: both arms are the plain case
      cases hd : denT r with
      | none =>
        cases r <;> simp [hd] at h
      | some ts =>
        apply plainCase ts hd
        cases r <;> simp [hd] at h <;> exact h.symm

structure TopVal (v : Obj) (st : ChainSt) : Prop where
  nd : NodupV v
  nor : asResp v = none
  rep : Rep (asC v) (asG v) st

theorem top_add {lv rv v' : Obj} {st : ChainSt} {it : Item} (hl : TopVal lv st)
    (hi : ItemVal true it rv) (hv : add lv rv = .ok v') : TopVal v' (stepItem st it) := by
  have hnd := add_nodupV hl.nd hv
  cases hi with
  | addI =>
    obtain ⟨h1, h2, h3, _⟩ := add_as hv hl.nd.acc (by simp) (fun e => absurd e hl.nd.ne_neg)
    refine ⟨hnd, by rw [h3, hl.nor], ?_⟩
    have e1 : asC (Obj.c CTerm.intercept) = [CTerm.intercept] := rfl
    have e2 : asG (Obj.c CTerm.intercept) = [] := rfl
    rw [h1, h2, e1, e2, addL_nil_right]
    exact hl.rep.addI
  | remI0 =>
    obtain ⟨h1, h2, h3, _⟩ := add_neg_as hv hl.nd.acc
    refine ⟨hnd, by rw [h3, hl.nor], ?_⟩
    rw [h1, h2]
    exact hl.rep.remI hl.nd.nodupC
  | plain _ p ts hp =>
    obtain ⟨h1, h2, h3, _⟩ := add_as hv hl.nd.acc (toObj_ne_neg p) (fun _ => toObj_ne_icpt p)
    refine ⟨hnd, by rw [h3, hl.nor], ?_⟩
    rw [h1, h2, asC_toObj, asG_toObj, addL_nil_right]
    exact hl.rep.addPlain p.list ts hp
  | grp _ _ Lg gs' hg hwf hL =>
    obtain ⟨h1, h2, h3, _⟩ := add_as hv hl.nd.acc hg.nneg (fun _ => hg.nicpt)
    refine ⟨hnd, by rw [h3, hl.nor], ?_⟩
    rw [h1, h2, hg.c, hg.g, addL_nil_right]
    exact hl.rep.addGrp Lg gs' hwf hL

theorem top_sub {lv rv v' : Obj} {st : ChainSt} {it : Item} (hl : TopVal lv st)
    (hi : ItemVal false it rv) (hv : sub lv rv = .ok v') : TopVal v' (stepItem st it) := by
  have hnd := sub_nodupV hl.nd hv
  cases hi with
  | remI1 =>
    obtain ⟨h1, h2, h3, _⟩ := sub_as hv hl.nd.acc
    refine ⟨hnd, by rw [h3, hl.nor], ?_⟩
    have e1 : asC (Obj.c CTerm.intercept) = [CTerm.intercept] := rfl
    have e2 : asG (Obj.c CTerm.intercept) = [] := rfl
    rw [h1, h2, e1, e2, remL_nil_right, remL_single_right]
    exact hl.rep.remI hl.nd.nodupC
  | plain _ p ts hp =>
    obtain ⟨h1, h2, h3, _⟩ := sub_as hv hl.nd.acc
    refine ⟨hnd, by rw [h3, hl.nor], ?_⟩
    rw [h1, h2, asC_toObj, asG_toObj, remL_nil_right]
    exact hl.rep.subPlain hl.nd.nodupC p.list ts hp
  | grp _ _ Lg gs' hg hwf hL =>
    obtain ⟨h1, h2, h3, _⟩ := sub_as hv hl.nd.acc
    refine ⟨hnd, by rw [h3, hl.nor], ?_⟩
    rw [h1, h2, hg.c, hg.g, remL_nil_right]
    exact hl.rep.subGrp hl.nd.nodupG Lg gs' hL

def denItems (items : List (Bool × Expr)) : Option ChainSt := do
  let is ← items.mapM topItem
  pure (is.foldl stepItem (false, [], []))

theorem denRhs_eq (x : Expr) : denRhs x = denItems (chain x) := rfl

theorem denItems_snoc (A : List (Bool × Expr)) (y : Bool × Expr) :
    denItems (A ++ [y]) = (denItems A).bind (fun st => (topItem y).map (stepItem st)) := by
  simp only [denItems, List.mapM_append, List.mapM_cons, List.mapM_nil]
  cases List.mapM topItem A with
  | none => rfl
  | some is =>
    cases topItem y with
    | none => rfl
    | some it => simp [List.foldl_append]

theorem denItems_single (y : Bool × Expr) :
    denItems [y] = (topItem y).map (stepItem (false, [], [])) := by
  simp only [denItems, List.mapM_cons, List.mapM_nil]
  cases topItem y <;> rfl

def chainD3Free (x : Expr) : Prop := ∀ it ∈ chain x, itemD3 it.2 = false

def TopAt (x : Expr) : Prop :=
  ∀ v st, isLit (chainHead x) "1" = true → resolve docOps x = .ok v → denRhs x = some st →
    NoGap x → chainD3Free x → TopVal v st

theorem top_main (x : Expr) : TopAt x := by
  induction x using chainHead.induct with
  | case1 l op r hk ih =>
    intro v st hh hr hd hng h3
    simp only [chainHead, hk, if_true] at hh
    simp only [Bool.or_eq_true, beq_iff_eq] at hk
    obtain ⟨s, hc, ho⟩ : ∃ s, chain (.binary l op r) = chain l ++ [(s, r)] ∧
        lookupOp docOps op.kind = some (if s then .add else .sub) := by
      rcases hk with hk | hk
      · exact ⟨true, chain_plus hk, by rw [hk]; rfl⟩
      · exact ⟨false, chain_minus hk, by rw [hk]; rfl⟩
    rw [denRhs_eq, hc, denItems_snoc] at hd
    obtain ⟨stl, hdl, hit⟩ := Option.bind_eq_some_iff.1 hd
    obtain ⟨it, hti, rfl⟩ := Option.map_eq_some_iff.1 hit
    obtain ⟨lv, rv, hl, hrr, hv⟩ := resolve_binary_ok ho hr
    have hlv := ih lv stl hh hl hdl hng.left fun it hi => h3 it (by rw [hc]; simp [hi])
    have hiv := item_val hti hrr hng.right (h3 (s, r) (by rw [hc]; simp))
    cases s with
    | true => exact top_add hlv hiv hv
    | false => exact top_sub hlv hiv hv
  | case2 l op r hk =>
    intro v st hh hr hd hng h3
    simp only [chainHead, hk] at hh
    simp [isLit] at hh
  | case3 e h1 =>
    intro v st hh hr hd hng h3
    cases e with
    | binary l op r => exact (h1 _ _ _ rfl).elim
    | literal t =>
      simp only [chainHead] at hh
      rw [resolve_one hh] at hr
      injection hr with hr; subst hr
      have hc : chain (.literal t) = [(true, .literal t)] := rfl
      have hti : topItem (true, .literal t) = some .addI := by
        simp [topItem, literalItem, hh]
      rw [denRhs_eq, hc, denItems_single, hti] at hd
      simp only [Option.map_some, Option.some.injEq] at hd
      subst hd
      refine ⟨⟨rfl, by simp [asC], by simp [asC], by simp [asG]⟩, rfl, ?_⟩
      exact ⟨by simp [asC], by simp [asG], by simp [asC, stepItem], by simp [asC, stepItem],
        by simp [asG, stepItem]⟩
    | _ => simp [chainHead, isLit] at hh

theorem mapM_option {α β : Type} (f : α → Option β) (l : List α)
    (h : ∀ x ∈ l, ∃ y, f x = some y) :
    ∃ L, l.mapM f = some L ∧ ∀ y, y ∈ L ↔ ∃ x ∈ l, f x = some y := by
  induction l with
  | nil => exact ⟨[], by simp, by simp⟩
  | cons a l ih =>
    obtain ⟨b, hb⟩ := h a (by simp)
    obtain ⟨L, hL, hm⟩ := ih (fun x hx => h x (by simp [hx]))
    refine ⟨b :: L, by simp [List.mapM_cons, hb, hL], ?_⟩
    intro y
    simp only [List.mem_cons, hm y]
    constructor
    · rintro (rfl | ⟨x, hx, hy⟩)
      · exact ⟨a, Or.inl rfl, hb⟩
      · exact ⟨x, Or.inr hx, hy⟩
    · rintro ⟨x, rfl | hx, hy⟩
      · left; rw [hb] at hy; injection hy with hy; exact hy.symm
      · exact Or.inr ⟨x, hx, hy⟩

theorem sem_of_rep {cs : List CTerm} {gs : List GTerm} {st : ChainSt} (h : Rep cs gs st)
    (ρ : Option (List Atom)) (ra : Option Atom)
    (hρ : (ρ = none ∧ ra = none) ∨ ∃ a, ρ = some [a] ∧ ra = some a) :
    ∃ s, semOfModel { common := cs, group := gs, resp := ρ } = some s ∧
      semEq s ⟨ra, st.1, st.2.1, st.2.2⟩ = true := by
  obtain ⟨Lc, hLc, hmc⟩ := mapM_option cOf cs (by
    intro c hc
    cases c with
    | negIntercept => exact absurd rfl (h.wfc _ hc)
    | intercept => exact ⟨_, rfl⟩
    | term a => exact ⟨_, rfl⟩)
  obtain ⟨Lg, hLg, hmg⟩ := mapM_option sgOf gs h.wfg
  refine ⟨⟨ra, Lc.contains none, Lc.filterMap id, Lg⟩, ?_, ?_⟩
  · rcases hρ with ⟨rfl, rfl⟩ | ⟨a, rfl, rfl⟩ <;>
      simp only [semOfModel, hLc, hLg, Option.bind_eq_bind, Option.bind_some, pure]
  · simp only [semEq, Bool.and_eq_true, beq_self_eq_true, true_and, beq_iff_eq]
    refine ⟨⟨?_, ?_⟩, ?_⟩
    · rw [← h.icpt, Bool.eq_iff_iff]
      simp only [List.contains_iff_mem, hmc]
      constructor
      · rintro ⟨c, hc, hcc⟩; rw [cOf_eq_none_iff.1 hcc] at hc; exact hc
      · intro hc; exact ⟨_, hc, rfl⟩
    · apply sameSet_iff.2
      intro t
      rw [← h.terms t]
      simp only [List.mem_filterMap, id, exists_eq_right, hmc]
      constructor
      · rintro ⟨c, hc, hcc⟩; rw [cOf_eq_some_iff.1 hcc] at hc; exact hc
      · intro hc; exact ⟨_, hc, rfl⟩
    · apply sameSet_iff.2
      intro x
      rw [hmg x, h.groups x]

theorem resp_resolve {l : Expr} {a : Atom} (ha : respAtom l = some a) :
    resolve docOps l = .ok (.c (.term [a])) := by
  cases l with
  | subset n lb lvl rb =>
    cases lvl with
    | «variable» x => injection ha with ha; subst ha; rfl
    | literal t =>
      simp only [respAtom] at ha
      split at ha
      · injection ha with ha; subst ha; rfl
      · cases ha
    | _ => simp [respAtom] at ha
  | _ => exact (atom_resolve (by simpa [respAtom] using ha)).1

theorem d3free_of_hasGapD3 {e : Expr} (h : hasGapD3 e = false) : chainD3Free (rhsOf e) := by
  intro it hit
  unfold hasGapD3 at h
  rw [List.any_eq_false] at h
  simpa using h it hit

/-- `C02_refines_Statement` for right-hand sides that start with the implicit `1 +`, outside the
wrong-answer gap classes -/
theorem refines_main (e : Expr) (m : ModelV) (d : Sem) (hdesc : describe docOps e = .ok m)
    (hden : den e = some d) (h1 : implicitOne e = true) (h3 : hasGapD3 e = false)
    (hng : NoGap e) : ∃ s, semOfModel m = some s ∧ semEq s d = true := by
  have h3' := d3free_of_hasGapD3 h3
  unfold implicitOne at h1
  have hdesc0 := hdesc
  simp only [describe, bind, Except.bind] at hdesc
  cases hr : resolve docOps e with
  | error er => simp [hr] at hdesc
  | ok v =>
    simp only [hr] at hdesc
    -- the non-`~` case, for any expression whose right-hand side is itself
    have plainCase : rhsOf e = e → respOf e = none →
        ∃ s, semOfModel m = some s ∧ semEq s d = true := by
      intro hrhs hresp
      rw [hrhs] at h1 h3'
      simp only [den, hresp, hrhs, Option.bind_eq_bind, Option.bind_some] at hden
      cases hst : denRhs e with
      | none => simp [hst] at hden
      | some st =>
        simp only [hst, Option.bind_some, pure, Option.some.injEq] at hden
        subst hden
        have htv := top_main e v st h1 hr hst hng h3'
        rw [describe_eq hr (ne_resp_of_acc htv.nd.acc), htv.nor] at hdesc0
        injection hdesc0 with hm
        rw [← hm]
        exact sem_of_rep htv.rep none none (Or.inl ⟨rfl, rfl⟩)
    cases e with
    | binary l op r =>
      by_cases hk : op.kind = .TILDE
      · simp only [rhsOf, hk, beq_self_eq_true, if_true] at h1 h3'
        simp only [den, respOf, rhsOf, hk, beq_self_eq_true, if_true, Option.bind_eq_bind] at hden
        cases hra : respAtom l with
        | none => simp [hra] at hden
        | some a =>
          simp only [hra, Option.map_some, Option.bind_some] at hden
          cases hst : denRhs r with
          | none => simp [hst] at hden
          | some st =>
            simp only [hst, Option.bind_some, pure, Option.some.injEq] at hden
            subst hden
            obtain ⟨lv, rv, hl, hrr, hv⟩ := resolve_binary_ok (o := .tilde) (by rw [hk]; rfl) hr
            have htv := top_main r rv st h1 hrr hst hng.right h3'
            rw [resp_resolve hra] at hl
            injection hl with hl
            subst hl
            simp only [apply, mkResponse, bind, Except.bind, pure, Except.pure] at hv
            have hv' := response_add htv.nd.acc hv
            subst hv'
            simp only [pure, Except.pure] at hdesc; injection hdesc with hdesc
            rw [← hdesc]
            exact sem_of_rep htv.rep (some [a]) (some a) (Or.inr ⟨a, rfl, rfl⟩)
      · have hk' : (op.kind == Kind.TILDE) = false := by simpa using hk
        exact plainCase (by simp [rhsOf, hk']) (by simp [respOf, hk'])
    | _ => exact plainCase rfl rfl

/-- `C02_refines_Statement` for a formula that is one bare `eff | grp` -/
theorem refines_barepipe (e : Expr) (m : ModelV) (d : Sem) (hdesc : describe docOps e = .ok m)
    (hden : den e = some d) (h1 : barePipe e = true) (h3 : hasGapD3 e = false)
    (hng : NoGap e) : ∃ s, semOfModel m = some s ∧ semEq s d = true := by
  cases e with
  | binary l op r =>
    simp only [barePipe, beq_iff_eq] at h1
    have hrhs : rhsOf (.binary l op r) = .binary l op r := by simp [rhsOf, h1]
    have hresp : respOf (.binary l op r) = none := by simp [respOf, h1]
    have hc : chain (.binary l op r) = [(true, .binary l op r)] :=
      chain_other (by rw [h1]; simp) (by rw [h1]; simp)
    have h3' := d3free_of_hasGapD3 h3
    rw [hrhs] at h3'
    have h3i : itemD3 (.binary l op r) = false := h3' (true, _) (by rw [hc]; simp)
    simp only [den, hresp, hrhs, Option.bind_eq_bind, Option.bind_some] at hden
    cases hst : denRhs (.binary l op r) with
    | none => simp [hst] at hden
    | some st =>
      simp only [hst, Option.bind_some, pure, Option.some.injEq] at hden
      subst hden
      have hti : topItem (true, .binary l op r) = (denG (.binary l op r)).map (.grp true) := by
        simp [topItem, literalItem, isLit, isGroupExpr, stripGroup, h1]
      rw [denRhs_eq, hc, denItems_single, hti] at hst
      cases hdg : denG (.binary l op r) with
      | none => simp [hdg] at hst
      | some gs0 =>
        rw [hdg] at hti hst
        simp only [Option.map_some, Option.some.injEq] at hst
        subst hst
        cases hr : resolve docOps (.binary l op r) with
        | error er => simp [describe, hr, bind, Except.bind] at hdesc
        | ok v =>
          have hiv := item_val hti hr hng h3i
          cases hiv with
          | grp _ _ Lg gs' hg hwf hL =>
            have hd2 := describe_eq hr hg.nresp
            rw [hd2] at hdesc
            injection hdesc with hdesc
            rw [← hdesc, hg.c, hg.g, hg.r]
            refine sem_of_rep ?_ none none (Or.inl ⟨rfl, rfl⟩)
            refine ⟨by simp, hwf, by simp [stepItem], by simp [stepItem], ?_⟩
            intro x
            simp only [stepItem]
            rw [mem_union, ← hL x]
            simp
  | _ => simp [barePipe] at h1

end FormulaeModel.Resolver
