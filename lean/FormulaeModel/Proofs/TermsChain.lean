import FormulaeModel.Proofs.TermsResolve
-- the lemmas of `section lists` are stated with all its variables
set_option linter.unusedSectionVars false
/-
C02, layer 4: additive chains. A value is read as the two lists `model_description` would wrap it
into (`asC`, `asG`); `+` and `-` are computed on them (`add_as`, `sub_as`). Two uses: a chain that
starts with `1` holds no term twice (`NodupV`: the proof of `C02_nodup`), and the lists represent
the state of the specification's fold as sets (`Rep`).
-/
namespace FormulaeModel.Resolver
open FormulaeModel.Terms FormulaeModel.Spec.C02

section lists
variable {α : Type} [BEq α] [LawfulBEq α]

theorem mem_removeFirst_nodup {l : List α} (h : l.Nodup) (x y : α) :
    x ∈ removeFirst y l ↔ x ∈ l ∧ x ≠ y := by
  rw [removeFirst_of_nodup h, List.mem_filter]
  simp

theorem mem_remL_nodup {A : List α} (h : A.Nodup) (B : List α) (x : α) :
    x ∈ remL A B ↔ x ∈ A ∧ x ∉ B := by
  rw [remL_of_nodup h, List.mem_filter]
  simp

theorem remL_nil (B : List α) : remL ([] : List α) B = [] := by
  rw [remL_of_nodup (by simp)]; rfl

theorem remL_nil_right (A : List α) : remL A ([] : List α) = A := rfl

theorem remL_single_right (A : List α) (x : α) : remL A [x] = removeFirst x A := rfl

theorem addL_nil_right (A : List α) : addL A ([] : List α) = A := rfl

theorem addL_nil_left_single (x : α) : addL ([] : List α) [x] = [x] := by simp [addL]

end lists

def asC : Obj → List CTerm
  | .c t => [t]
  | .model m => m.common
  | _ => []

def asG : Obj → List GTerm
  | .g x => [x]
  | .model m => m.group
  | _ => []

def asResp : Obj → Option (List Atom)
  | .model m => m.resp
  | _ => none

def isAcc : Obj → Bool
  | .c _ => true
  | .model _ => true
  | _ => false

theorem ne_resp_of_acc {v : Obj} (h : isAcc v = true) : ∀ r, v ≠ .response r := by
  rintro r rfl; cases h

theorem describe_eq {e : Expr} {v : Obj} (h : resolve docOps e = .ok v) (hv : ∀ r, v ≠ .response r) :
    describe docOps e = .ok { common := asC v, group := asG v, resp := asResp v } := by
  simp only [describe, h, bind, Except.bind]
  cases v with
  | c t => rfl
  | g x => rfl
  | model m => rfl
  | response r => exact absurd rfl (hv r)

theorem addTerms_neg (m : ModelV) (cs : List CTerm) (rest : List Obj) (h : .negIntercept ∈ cs) :
    ∃ e, addTerms m (cs.map .c ++ rest) = .error e := by
  induction cs generalizing m with
  | nil => cases h
  | cons c cs ih =>
    by_cases hc : c = .negIntercept
    · subst hc; exact ⟨_, rfl⟩
    · simp only [List.map_cons, List.cons_append, addTerms, addTerm_c m c hc, bind, Except.bind]
      exact ih _ (by simpa [Ne.symm hc] using h)

theorem addModel_as {m o : ModelV} {v' : Obj}
    (h : (addModel m o).bind (fun m => .ok (.model m)) = .ok v') :
    asC v' = addL m.common o.common ∧ asG v' = addL m.group o.group ∧ asResp v' = m.resp ∧
      isAcc v' = true ∧ ∀ c ∈ o.common, c ≠ .negIntercept := by
  have hn : ∀ c ∈ o.common, c ≠ .negIntercept := by
    intro c hc e
    obtain ⟨er, he⟩ := addTerms_neg m o.common (o.group.map .g) (e ▸ hc)
    rw [addModel, terms, he] at h
    cases h
  rw [addModel_eq m o hn] at h
  injection h with h
  subst h
  exact ⟨rfl, rfl, rfl, rfl, hn⟩

theorem add_c_model (t : CTerm) (o : ModelV) :
    add (.c t) (.model o) = (addModel (modelOfC [t]) o).bind (fun m => .ok (.model m)) := by
  cases t <;> rfl

/-- `NegatedIntercept + Intercept` is excluded because the two cancel to the empty model; a `Model`
on the right holds no `NegatedIntercept`, or `add_term` would have raised -/
theorem add_as {lv rv v' : Obj} (h : add lv rv = .ok v') (hl : isAcc lv = true)
    (hrv : rv ≠ .c .negIntercept) (hni : lv = .c .negIntercept → rv ≠ .c .intercept) :
    asC v' = addL (asC lv) (asC rv) ∧ asG v' = addL (asG lv) (asG rv) ∧ asResp v' = asResp lv ∧
      isAcc v' = true ∧ ∀ c ∈ asC rv, c ≠ .negIntercept := by
  cases lv with
  | g x => cases hl
  | response r => cases hl
  | c t =>
    cases rv with
    | response r => cases t <;> cases h
    | model o => rw [add_c_model] at h; exact addModel_as h
    | g x =>
      cases t with
      | term a => cases h
      | _ => injection h with h; subst h; simp [asC, asG, asResp, isAcc, addL]
    | c x =>
      cases x with
      | negIntercept => exact absurd rfl hrv
      | intercept =>
        cases t with
        | intercept => injection h with h; subst h; simp [asC, asG, asResp, isAcc, addL]
        | negIntercept => exact absurd rfl (hni rfl)
        | term a => cases h
      | term b =>
        cases t with
        | term a =>
          by_cases hab : a = b
          · subst hab
            unfold add at h
            simp only [beq_self_eq_true, if_true] at h
            injection h with h; subst h; simp [asC, asG, asResp, isAcc, addL]
          · unfold add at h
            simp only [beq_iff_eq, hab, if_false] at h
            injection h with h; subst h
            simp [asC, asG, asResp, isAcc, addL, modelOfC, Ne.symm hab]
        | _ => injection h with h; subst h; simp [asC, asG, asResp, isAcc, addL]
  | model m =>
    cases rv with
    | response r => cases h
    | model o => exact addModel_as h
    | g x =>
      injection h with h; subst h
      simp only [asC, asG, asResp, isAcc, addL]
      split <;> simp
    | c x =>
      cases x with
      | negIntercept => exact absurd rfl hrv
      | _ =>
        injection h with h; subst h
        simp only [asC, asG, asResp, isAcc, addL]
        split <;> simp

theorem add_neg_as {lv v' : Obj} (h : add lv (.c .negIntercept) = .ok v') (hl : isAcc lv = true) :
    asC v' = removeFirst .intercept (asC lv) ∧ asG v' = asG lv ∧ asResp v' = asResp lv ∧
      isAcc v' = true := by
  cases lv with
  | g x => cases hl
  | response r => cases hl
  | c t =>
    cases t with
    | term a => cases h
    | _ => injection h with h; subst h; simp [asC, asG, asResp, isAcc, removeFirst]
  | model m => injection h with h; subst h; simp [asC, asG, asResp, isAcc]

theorem sub_as {lv rv v' : Obj} (h : sub lv rv = .ok v') (hl : isAcc lv = true) :
    asC v' = remL (asC lv) (asC rv) ∧ asG v' = remL (asG lv) (asG rv) ∧ asResp v' = asResp lv ∧
      isAcc v' = true := by
  cases lv with
  | g x => cases hl
  | response r => cases hl
  | c t =>
    cases rv with
    | response r => cases t <;> cases h
    | g x => cases t <;> cases h
    | model o =>
      cases t with
      | negIntercept => cases h
      | _ =>
        unfold sub at h
        dsimp only at h
        -- `if other has self then Model() else self`: the value is explicit in both branches
        split at h <;> injection h with h <;> subst h <;>
          simp_all [asC, asG, asResp, isAcc, remL_singleton, remL_nil]
    | c x =>
      cases t with
      | negIntercept => cases x <;> cases h
      | intercept =>
        cases x with
        | term b => cases h
        | _ => injection h with h; subst h; simp [asC, asG, asResp, isAcc, remL, removeFirst]
      | term a =>
        cases x with
        | term b =>
          unfold sub at h
          dsimp only at h
          split at h <;> injection h with h <;> subst h <;>
            simp_all [asC, asG, asResp, isAcc, remL, removeFirst]
        | _ => cases h
  | model m =>
    cases rv with
    | response r => cases h
    | c x =>
      cases x with
      | negIntercept => cases h
      | _ => injection h with h; subst h; simp [asC, asG, asResp, isAcc, remL]
    | _ => injection h with h; subst h; simp [asC, asG, asResp, isAcc, remL]

/-! No term twice after the implicit `1 +`: every later `+` goes through `Model.add_term`, every
`-` through `list.remove`. -/

structure NodupV (v : Obj) : Prop where
  acc : isAcc v = true
  nneg : ∀ c ∈ asC v, c ≠ .negIntercept
  nodupC : (asC v).Nodup
  nodupG : (asG v).Nodup

theorem NodupV.ne_neg {v : Obj} (h : NodupV v) : v ≠ .c .negIntercept :=
  fun e => h.nneg .negIntercept (by simp [e, asC]) rfl

theorem add_nodupV {v rv v' : Obj} (hv : NodupV v) (h : add v rv = .ok v') : NodupV v' := by
  by_cases hrv : rv = .c .negIntercept
  · subst hrv
    obtain ⟨h1, h2, _, h4⟩ := add_neg_as h hv.acc
    refine ⟨h4, ?_, ?_, h2 ▸ hv.nodupG⟩ <;> rw [h1]
    · exact fun c hc => hv.nneg c (mem_removeFirst hc)
    · exact hv.nodupC.sublist (removeFirst_sublist _ _)
  · obtain ⟨h1, h2, _, h4, h5⟩ := add_as h hv.acc hrv (fun e => absurd e hv.ne_neg)
    refine ⟨h4, ?_, h1 ▸ nodup_addL hv.nodupC _, h2 ▸ nodup_addL hv.nodupG _⟩
    rw [h1]
    exact fun c hc => ((mem_addL _ _).1 hc).elim (hv.nneg c) (h5 c)

theorem sub_nodupV {v rv v' : Obj} (hv : NodupV v) (h : sub v rv = .ok v') : NodupV v' := by
  obtain ⟨h1, h2, _, h4⟩ := sub_as h hv.acc
  refine ⟨h4, ?_, h1 ▸ hv.nodupC.sublist (remL_sublist _ _), h2 ▸ hv.nodupG.sublist (remL_sublist _ _)⟩
  rw [h1]
  exact fun c hc => hv.nneg c (mem_remL hc)

theorem resolve_one {t : Token} (h : isLit (.literal t) "1" = true) :
    resolve docOps (.literal t) = .ok (.c .intercept) := by
  simp only [isLit, Bool.and_eq_true, beq_iff_eq] at h
  obtain ⟨hk, hl⟩ := h
  have h0 : numIsZero "1" = false := by decide
  have h1 : numIsOne "1" = true := by decide
  simp only [resolve, hk, hl, h0, h1, Bool.false_eq_true, if_false, if_true]
  rfl

theorem chain_nodupV (x : Expr) : ∀ v, isLit (chainHead x) "1" = true →
    resolve docOps x = .ok v → NodupV v := by
  induction x using chainHead.induct with
  | case1 l op r hk ih =>
    intro v hh hr
    simp only [chainHead, hk, if_true] at hh
    simp only [Bool.or_eq_true, beq_iff_eq] at hk
    rcases hk with hk | hk
    · obtain ⟨lv, rv, hl, hrr, hv⟩ := resolve_binary_ok (o := .add) (by rw [hk]; rfl) hr
      exact add_nodupV (ih lv hh hl) hv
    · obtain ⟨lv, rv, hl, hrr, hv⟩ := resolve_binary_ok (o := .sub) (by rw [hk]; rfl) hr
      exact sub_nodupV (ih lv hh hl) hv
  | case2 l op r hk =>
    intro v hh hr
    simp only [chainHead, hk] at hh
    simp [isLit] at hh
  | case3 e h1 =>
    intro v hh hr
    cases e with
    | binary l op r => exact (h1 _ _ _ rfl).elim
    | literal t =>
      simp only [chainHead] at hh
      rw [resolve_one hh] at hr
      injection hr with hr; subst hr
      exact ⟨rfl, by simp [asC], by simp [asC], by simp [asG]⟩
    | _ => simp [chainHead, isLit] at hh

theorem response_add {r : List Atom} {rv v : Obj} (hv : isAcc rv = true)
    (h : add (.response r) rv = .ok v) :
    v = .model { common := asC rv, group := asG rv, resp := some r } := by
  cases rv with
  | c t =>
    cases t with
    | negIntercept => cases h
    | _ => injection h with h; exact h.symm
  | model m => injection h with h; exact h.symm
  | _ => cases hv

theorem mkResponse_ok {lv w : Obj} (h : mkResponse lv = .ok w) : ∃ r, w = .response r := by
  unfold mkResponse at h
  split at h
  · injection h with h; exact ⟨_, h.symm⟩
  · simp at h

theorem formula_nodupV (e : Expr) (v : Obj) (h1 : implicitOne e = true)
    (hr : resolve docOps e = .ok v) : NodupV v := by
  unfold implicitOne at h1
  cases e with
  | binary l op r =>
    by_cases hk : op.kind = .TILDE
    · simp only [rhsOf, hk, beq_self_eq_true, if_true] at h1
      obtain ⟨lv, rv, hl, hrr, hv⟩ := resolve_binary_ok (o := .tilde) (by rw [hk]; rfl) hr
      have hrv := chain_nodupV r rv h1 hrr
      simp only [apply, bind, Except.bind] at hv
      cases hm : mkResponse lv with
      | error er => simp [hm] at hv
      | ok w =>
        obtain ⟨rr, rfl⟩ := mkResponse_ok hm
        simp only [hm] at hv
        rw [response_add hrv.acc hv]
        exact ⟨rfl, hrv.nneg, hrv.nodupC, hrv.nodupG⟩
    · have : (op.kind == Kind.TILDE) = false := by simpa using hk
      simp only [rhsOf, this, Bool.false_eq_true, if_false] at h1
      exact chain_nodupV _ v h1 hr
  | _ => exact chain_nodupV _ v (by simpa [rhsOf] using h1) hr

theorem describe_nodup (e : Expr) (m : ModelV) (h1 : implicitOne e = true)
    (hd : describe docOps e = .ok m) : m.common.Nodup ∧ m.group.Nodup := by
  cases hr : resolve docOps e with
  | error er => simp [describe, hr, bind, Except.bind] at hd
  | ok v =>
    have hv := formula_nodupV e v h1 hr
    rw [describe_eq hr (ne_resp_of_acc hv.acc)] at hd
    injection hd with hd
    subst hd
    exact ⟨hv.nodupC, hv.nodupG⟩

theorem mem_union {α : Type} [BEq α] [LawfulBEq α] (a b : List α) (x : α) :
    x ∈ union a b ↔ x ∈ a ∨ x ∈ b := by
  simp only [union, List.mem_append, List.mem_filter]
  by_cases h : x ∈ a <;> simp [h]

theorem mem_diff {α : Type} [BEq α] [LawfulBEq α] (a b : List α) (x : α) :
    x ∈ diff a b ↔ x ∈ a ∧ x ∉ b := by
  simp [diff, List.mem_filter]

/-- the representation invariant of the refinement: the lists of a chain value against the state of
the specification's fold, as sets -/
structure Rep (cs : List CTerm) (gs : List GTerm) (st : ChainSt) : Prop where
  wfc : ∀ c ∈ cs, c ≠ .negIntercept
  wfg : ∀ g ∈ gs, ∃ s, sgOf g = some s
  icpt : cs.contains .intercept = st.1
  terms : ∀ t, CTerm.term t ∈ cs ↔ t ∈ st.2.1
  groups : ∀ s, (∃ g ∈ gs, sgOf g = some s) ↔ s ∈ st.2.2

theorem sgOf_eq_some {g : GTerm} {s : SG} (h : sgOf g = some s) :
    g = ⟨(match s.eff with | some a => .term a | none => .intercept), .term s.fac⟩ := by
  obtain ⟨e, f⟩ := g
  cases e <;> cases f <;> simp [sgOf] at h <;> subst h <;> rfl

theorem sgOf_inj {g g' : GTerm} {s : SG} (h : sgOf g = some s) (h' : sgOf g' = some s) :
    g = g' := by
  rw [sgOf_eq_some h, sgOf_eq_some h']

theorem Rep.addI {cs gs st} (h : Rep cs gs st) :
    Rep (addL cs [.intercept]) gs (true, st.2.1, st.2.2) where
  wfc := by
    intro c hc
    rcases (mem_addL _ _).1 hc with h1 | h1
    · exact h.wfc c h1
    · simp at h1; subst h1; simp
  wfg := h.wfg
  icpt := by simp [mem_addL]
  terms := by
    intro t
    rw [mem_addL]
    simp [h.terms t]
  groups := h.groups

theorem Rep.remI {cs gs st} (h : Rep cs gs st) (hn : cs.Nodup) :
    Rep (removeFirst .intercept cs) gs (false, st.2.1, st.2.2) where
  wfc := fun c hc => h.wfc c (mem_removeFirst hc)
  wfg := h.wfg
  icpt := by
    rw [Bool.eq_false_iff]
    intro hc
    have := (mem_removeFirst_nodup hn _ _).1 (by simpa using hc)
    exact this.2 rfl
  terms := by
    intro t
    rw [mem_removeFirst_nodup hn]
    simp [h.terms t]
  groups := h.groups

theorem Rep.addPlain {cs gs st} (h : Rep cs gs st) (L ts : List STerm)
    (hL : ∀ t, t ∈ L ↔ t ∈ ts) :
    Rep (addL cs (L.map .term)) gs (st.1, union st.2.1 ts, st.2.2) where
  wfc := by
    intro c hc
    rcases (mem_addL _ _).1 hc with h1 | h1
    · exact h.wfc c h1
    · exact ne_neg_of_map_term c h1
  wfg := h.wfg
  icpt := by
    rw [← h.icpt, Bool.eq_iff_iff]
    simp [mem_addL]
  terms := by
    intro t
    rw [mem_addL, mem_union, h.terms t, ← hL t]
    simp
  groups := h.groups

theorem Rep.subPlain {cs gs st} (h : Rep cs gs st) (hn : cs.Nodup) (L ts : List STerm)
    (hL : ∀ t, t ∈ L ↔ t ∈ ts) :
    Rep (remL cs (L.map .term)) gs (st.1, diff st.2.1 ts, st.2.2) where
  wfc := fun c hc => h.wfc c (mem_remL hc)
  wfg := h.wfg
  icpt := by
    rw [← h.icpt, Bool.eq_iff_iff]
    simp [mem_remL_nodup hn]
  terms := by
    intro t
    rw [mem_remL_nodup hn, mem_diff, h.terms t, ← hL t]
    simp
  groups := h.groups

theorem Rep.addGrp {cs gs st} (h : Rep cs gs st) (Lg : List GTerm) (gs' : List SG)
    (hwf : ∀ g ∈ Lg, ∃ s, sgOf g = some s)
    (hL : ∀ s, (∃ g ∈ Lg, sgOf g = some s) ↔ s ∈ gs') :
    Rep cs (addL gs Lg) (st.1, st.2.1, union st.2.2 gs') where
  wfc := h.wfc
  wfg := by
    intro g hg
    rcases (mem_addL _ _).1 hg with h1 | h1
    · exact h.wfg g h1
    · exact hwf g h1
  icpt := h.icpt
  terms := h.terms
  groups := by
    intro s
    rw [mem_union, ← h.groups s, ← hL s]
    constructor
    · rintro ⟨g, hg, hs⟩
      rcases (mem_addL _ _).1 hg with h1 | h1
      · exact Or.inl ⟨g, h1, hs⟩
      · exact Or.inr ⟨g, h1, hs⟩
    · rintro (⟨g, hg, hs⟩ | ⟨g, hg, hs⟩)
      · exact ⟨g, (mem_addL _ _).2 (Or.inl hg), hs⟩
      · exact ⟨g, (mem_addL _ _).2 (Or.inr hg), hs⟩

theorem Rep.subGrp {cs gs st} (h : Rep cs gs st) (hn : gs.Nodup) (Lg : List GTerm)
    (gs' : List SG) (hL : ∀ s, (∃ g ∈ Lg, sgOf g = some s) ↔ s ∈ gs') :
    Rep cs (remL gs Lg) (st.1, st.2.1, diff st.2.2 gs') where
  wfc := h.wfc
  wfg := fun g hg => h.wfg g (mem_remL hg)
  icpt := h.icpt
  terms := h.terms
  groups := by
    intro s
    rw [mem_diff, ← h.groups s, ← hL s]
    constructor
    · rintro ⟨g, hg, hs⟩
      have := (mem_remL_nodup hn _ _).1 hg
      refine ⟨⟨g, this.1, hs⟩, ?_⟩
      rintro ⟨g', hg', hs'⟩
      exact this.2 (sgOf_inj hs hs' ▸ hg')
    · rintro ⟨⟨g, hg, hs⟩, hno⟩
      refine ⟨g, (mem_remL_nodup hn _ _).2 ⟨hg, fun hg' => hno ⟨g, hg', hs⟩⟩, hs⟩

end FormulaeModel.Resolver
