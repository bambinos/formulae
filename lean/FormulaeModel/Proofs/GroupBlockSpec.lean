import FormulaeModel.Proofs.GroupBlockGroup
import FormulaeModel.Spec.C05
/-
The state `trainGroup` leaves: grouping by plain variables gives the complete indicator coding; for
one plain variable the values and levels are the specification's `componentValues` / `componentLevels`.
-/
namespace FormulaeModel.Design

/-- every component of the grouping factor asks for Treatment coding (a hypothesis on the values
read; `PlainFactor.treatment` establishes it for plain variables, `C(g, Sum)` violates it) -/
def TreatmentFactor (env : Env) (table : List (String × Expr)) (names : List String) : Prop :=
  ∀ nm ∈ names, ∀ e v, compExpr table nm = .ok e → factorVal env nm e = .ok v →
    ∃ r, valContrast v = .treatment r

/-- grouping by plain variables: no component is a call or `{…}` (unlike `plainFactorExpr`, which
admits calls) -/
def PlainFactor (table : List (String × Expr)) (names : List String) : Prop :=
  ∀ nm ∈ names, ∀ e, compExpr table nm = .ok e → isCallLike e = false

theorem PlainFactor.treatment {env : Env} {table : List (String × Expr)} {names : List String}
    (h : PlainFactor table names) : TreatmentFactor env table names := by
  intro nm hnm e v he hv
  exact ⟨none, factorVal_var_contrast env nm e v (h nm hnm e he) hv⟩

theorem trainGroup_factor_comps (env : Env) (table : List (String × Expr)) (spec : GroupSpec)
    (out : GroupOut) (h : trainGroup env table spec = .ok out) :
    ∀ c ∈ out.st.factor.comps, c.name ∈ spec.factor.comps.map (·.1) ∧
      compExpr table c.name = .ok c.expr ∧
      ∃ v xs o, o.st = c ∧ factorVal env c.name c.expr = .ok v ∧ FactorComp c.name c.expr true v xs o := by
  obtain ⟨f, X, el, hf, _, _, _, hst, _, _, _⟩ := trainGroup_parts env table spec out h
  rw [hst]
  unfold trainTerm at hf
  simp only [bind_ok, pure_ok] at hf
  obtain ⟨outs, houts, rfl⟩ := hf
  intro c hc
  obtain ⟨o, ho, rfl⟩ := List.mem_map.1 hc
  refine mapM_forall _ (fun (o : CompOut) => o.st.name ∈ spec.factor.comps.map (·.1) ∧
    compExpr table o.st.name = .ok o.st.expr ∧ ∃ v xs o', o'.st = o.st ∧
      factorVal env o.st.name o.st.expr = .ok v ∧ FactorComp o.st.name o.st.expr true v xs o') _ _ houts ?_ o ho
  intro c hc o ho
  simp only [bind_ok] at ho
  obtain ⟨e, he, ho⟩ := ho
  obtain ⟨c0, hc0, rfl⟩ := List.mem_map.1 hc
  obtain ⟨v, xs, hv, _, hfc⟩ := trainComp_factor env _ e true o ho
  rw [hfc.name_eq, hfc.expr_eq]
  exact ⟨List.mem_map.2 ⟨c0, hc0, rfl⟩, he, v, xs, o, rfl, hv, hfc⟩

theorem trainGroup_factor_state (env : Env) (table : List (String × Expr)) (spec : GroupSpec)
    (out : GroupOut) (h : trainGroup env table spec = .ok out) :
    (∀ c ∈ out.st.factor.comps, c.kind = .categoric) ∧
    (TreatmentFactor env table (spec.factor.comps.map (·.1)) →
      ∀ c ∈ out.st.factor.comps, c.contrast = some (treatmentFull c.levels)) := by
  have hall := trainGroup_factor_comps env table spec out h
  constructor
  · intro c hc
    obtain ⟨_, _, v, xs, o, rfl, _, hfc⟩ := hall c hc
    exact hfc.kind
  · intro hT c hc
    obtain ⟨hmem, he, v, xs, o, rfl, hv, hfc⟩ := hall c hc
    exact hfc.treatment (hT _ hmem _ v he hv)

theorem trainGroup_single (env : Env) (table : List (String × Expr)) (spec : GroupSpec) (out : GroupOut)
    (name : String) (flag : Bool) (x : Token)
    (hf : spec.factor.comps = [(name, flag)]) (hx : compExpr table name = .ok (.variable x))
    (h : trainGroup env table spec = .ok out) :
    ∃ c v xs, out.st.factor.comps = [c] ∧ c.name = name ∧ c.expr = .variable x ∧
      (∀ c ∈ out.st.factor.comps, c.contrast = some (treatmentFull c.levels)) ∧
      factorColumns env table (spec.factor.comps.map (·.1)) = .ok [(v, xs)] ∧
      factorVal env name (.variable x) = .ok v ∧ valLevels v = .ok xs ∧
      LevelOrder (valDeclared v) xs c.levels := by
  have hplain : PlainFactor table (spec.factor.comps.map (·.1)) := by
    intro nm hnm e he
    simp only [hf, List.map_cons, List.map_nil, List.mem_singleton] at hnm
    rw [hnm, hx] at he
    cases he
    rfl
  have ht := (trainGroup_factor_state env table spec out h).2 hplain.treatment
  obtain ⟨f, outs, cols, X, hP, _, _, _⟩ := trainGroup_reads env table spec out h
  have hcols := hP.columns
  obtain ⟨hnames, hlen, hord⟩ := trainGroup_factor env table spec out h cols hcols
  have hcols' := hcols
  simp only [hf, List.map_cons, List.map_nil, factorColumns, List.mapM_cons, List.mapM_nil, bind_ok,
    pure_ok] at hcols
  obtain ⟨col, ⟨e, he, v, hv, xs, hxs, rfl⟩, _, rfl, rfl⟩ := hcols
  rw [hx] at he
  cases he
  obtain ⟨c, hc⟩ := List.length_eq_one_iff.1 hlen
  have hname : c.name = name := by
    rw [hc, hf] at hnames
    simpa using hnames
  have hexpr := (trainGroup_factor_comps env table spec out h c (by rw [hc]; simp)).2.1
  rw [hname, hx] at hexpr
  exact ⟨c, v, xs, hc, hname, (Except.ok.inj hexpr).symm, ht, hcols', hv, hxs, hord 0 c (v, xs) (by rw [hc]; rfl) rfl⟩

/-- the grouping expressions the specification's `componentValues` reads: calls and `{…}` as well
as names; only `a[level]` and the operator forms are left out (not the `PlainFactor` condition) -/
def plainFactorExpr : Expr → Bool
  | .call .. | .brace .. | .quoted _ | .variable _ => true
  | _ => false

theorem compExpr_find (table : List (String × Expr)) (name : String) (e : Expr)
    (h : compExpr table name = .ok e) : ∃ p, table.find? (·.1 == name) = some p ∧ p.2 = e := by
  unfold compExpr at h
  split at h
  · rename_i p hp
    simp only [pure_ok] at h
    exact ⟨p, hp, h⟩
  · simp at h

theorem componentValues_eq (env : Env) (table : List (String × Expr)) (name : String) (e : Expr)
    (he : compExpr table name = .ok e) (hp : plainFactorExpr e = true) (v : Val)
    (xs : List (Option Level)) (hv : factorVal env name e = .ok v) (hxs : valLevels v = .ok xs) :
    Spec.C05.componentValues env table name = .ok xs := by
  obtain ⟨⟨n0, e0⟩, hfind, rfl⟩ := compExpr_find table name _ he
  have hval : ∀ (w : M Val), w = .ok v →
      (w >>= fun v => match v with
        | .vec xs _ => numericLevels xs
        | .lvec xs _ => pure xs
        | .box b => pure b.data
        | _ => .error (.unmodelled "grouping value")) = .ok xs := by
    intro w hw
    subst hw
    cases v <;> simp only [valLevels] at hxs <;> simp only [ok_bind] <;> exact hxs
  cases e0
  case «variable» x | quoted t =>
    unfold Spec.C05.componentValues
    simp only [hfind]
    simp only [factorVal, isCallLike, Bool.false_eq_true, if_false, varColRef] at hv
    split at hv
    · rename_i c hc
      apply hval
      simp only [lookupName, hc]
      exact hv
    · simp at hv
  case call c0 lp as rp | brace lb e1 rb =>
    unfold Spec.C05.componentValues
    simp only [hfind]
    simp only [factorVal, isCallLike, if_true] at hv
    cases hpo : posOnly (evalArg env _ none) with
    | error err => rw [hpo] at hv; simp [Except.map] at hv
    | ok p =>
      rw [hpo] at hv
      simp only [Except.map, Except.ok.injEq] at hv
      subst hv
      exact hval (pure p.1) rfl
  all_goals simp [plainFactorExpr] at hp

theorem componentLevels_eq (env : Env) (table : List (String × Expr)) (name : String) (x : Token)
    (he : compExpr table name = .ok (.variable x)) (v : Val) (xs : List (Option Level))
    (levels : List Level) (hv : factorVal env name (.variable x) = .ok v) (hxs : valLevels v = .ok xs)
    (ho : LevelOrder (valDeclared v) xs levels) :
    Spec.C05.componentLevels env table name = .ok levels := by
  have hcv := componentValues_eq env table name _ he rfl v xs hv hxs
  obtain ⟨⟨n0, e0⟩, hfind, he0⟩ := compExpr_find table name _ he
  simp only at he0
  subst he0
  simp only [factorVal, isCallLike, Bool.false_eq_true, if_false, varColRef] at hv
  split at hv
  · rename_i c hc
    simp only [pure_ok] at hv
    subst hv
    unfold Spec.C05.componentLevels
    simp only [hfind, hc, hcv, ok_bind]
    unfold colVal at ho
    cases hk : c.kind with
    | numeric isInt =>
      simp only [hk, valDeclared, LevelOrder] at ho
      simp only [ho]
      rfl
    | string =>
      simp only [hk, valDeclared, declaredOf, LevelOrder] at ho
      simp only [ho]
      rfl
    | categorical o cats =>
      cases o with
      | true =>
        simp only [hk, valDeclared, declaredOf, LevelOrder] at ho
        subst ho
        rfl
      | false =>
        simp only [hk, valDeclared, declaredOf, LevelOrder] at ho
        simp only [ho]
        rfl
  · simp at hv

end FormulaeModel.Design
