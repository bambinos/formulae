import FormulaeModel.Proofs.Contrasts
/-
Behind `C03_columns_count`: a coded term has as many columns as the weights of the subsets in its
interval add up to (`columns_eq_sum`, through a product over a common universe of factor names);
summing over a numeric block and swapping the sums gives `block_columns`.
-/
namespace FormulaeModel.Spec.C03

theorem sumList_append (a b : List Nat) : sumList (a ++ b) = sumList a + sumList b := by
  induction a with
  | nil => simp [sumList]
  | cons x xs ih => simp [sumList, ih, Nat.add_assoc]

theorem sumList_map_mul (k : Nat) {α : Type} (l : List α) (f : α → Nat) :
    sumList (l.map (fun x => k * f x)) = k * sumList (l.map f) := by
  induction l with
  | nil => simp [sumList]
  | cons x xs ih => simp [sumList, ih, Nat.mul_add]

theorem sumList_map_add {α : Type} (l : List α) (f g : α → Nat) :
    sumList (l.map (fun x => f x + g x)) = sumList (l.map f) + sumList (l.map g) := by
  induction l with
  | nil => simp [sumList]
  | cons x xs ih => simp only [List.map_cons, sumList, ih]; omega

theorem sumList_congr {α : Type} (l : List α) (f g : α → Nat) (h : ∀ x ∈ l, f x = g x) :
    sumList (l.map f) = sumList (l.map g) := by
  rw [List.map_congr_left h]

theorem sumList_zero {α : Type} (l : List α) : sumList (l.map (fun _ => 0)) = 0 := by
  induction l with
  | nil => rfl
  | cons x xs ih => simp [sumList, ih]

theorem all_congr' {α : Type} (l : List α) (p q : α → Bool) (h : ∀ y ∈ l, p y = q y) :
    l.all p = l.all q := by
  induction l with
  | nil => rfl
  | cons x xs ih =>
    simp only [List.all_cons, h x (by simp), ih (fun y hy => h y (by simp [hy]))]

def colFactor (levels : String → Nat) (c : CTerm) (x : String) : Nat :=
  if c.red.contains x then levels x - 1 else if c.full.contains x then levels x else 1

/-- "`U` is in the interval of `c`" as far as the factor `x` is concerned -/
def okAt (c : CTerm) (U : List String) (x : String) : Bool :=
  (!c.red.contains x || U.contains x) && (!U.contains x || c.red.contains x || c.full.contains x)

def okOn (c : CTerm) (xs U : List String) : Bool := xs.all (okAt c U)

theorem mem_sublists {α : Type} {l s : List α} (h : s ∈ sublists l) : ∀ x ∈ s, x ∈ l := by
  induction l generalizing s with
  | nil => simp [sublists] at h; subst h; simp
  | cons y ys ih =>
    simp only [sublists, List.mem_append, List.mem_map] at h
    rcases h with h | ⟨t, ht, rfl⟩
    · intro x hx; exact List.mem_cons_of_mem _ (ih h x hx)
    · intro x hx
      rcases List.mem_cons.1 hx with rfl | hx
      · simp
      · exact List.mem_cons_of_mem _ (ih ht x hx)

theorem sum_okOn (levels : String → Nat) (hpos : ∀ f, 1 ≤ levels f) (c : CTerm) (xs : List String)
    (hnd : xs.Nodup) :
    sumList ((sublists xs).map (fun U => if okOn c xs U then weight levels U else 0)) =
      prodList (xs.map (colFactor levels c)) := by
  induction xs with
  | nil => rfl
  | cons x xs ih =>
    rw [List.nodup_cons] at hnd
    have hx : ∀ U ∈ sublists xs, U.contains x = false := fun U hU => by
      simpa using fun h => hnd.1 (mem_sublists hU x h)
    have hrest : ∀ U ∈ sublists xs, okOn c xs (x :: U) = okOn c xs U := fun U _ =>
      all_congr' _ _ _ fun y hy => by
        have hyx : y ≠ x := fun h => hnd.1 (h ▸ hy)
        simp [okAt, hyx]
    -- `x` stays out unless reduced, comes in if it is a factor of the term
    have key : (if c.red.contains x then 0 else 1) +
        (if c.red.contains x || c.full.contains x then levels x - 1 else 0) = colFactor levels c x := by
      have := hpos x
      unfold colFactor
      cases c.red.contains x <;> cases c.full.contains x <;> simp <;> omega
    simp only [sublists, List.map_append, List.map_map, sumList_append, List.map_cons, prodList]
    rw [← ih hnd.2, ← key, Nat.add_mul, ← sumList_map_mul, ← sumList_map_mul]
    congr 1 <;> apply sumList_congr <;> intro U hU
    · simp only [okOn, List.all_cons, okAt, hx U hU]
      cases c.red.contains x <;> simp
    · have h1 := hrest U hU
      simp only [okOn] at h1
      simp only [Function.comp, okOn, List.all_cons, okAt, List.contains_cons, beq_self_eq_true,
        Bool.true_or, Bool.not_true, Bool.false_or, Bool.or_true, Bool.true_and, h1, weight,
        List.map_cons, prodList]
      -- the four cases of `x` reduced / full in `c`, each with `okOn c xs U` true or false
      cases c.red.contains x <;> cases c.full.contains x <;> simp <;> split <;> simp [Nat.mul_comm]
theorem inInterval_eq_okOn (c : CTerm) (univ U : List String) (hU : U ∈ sublists univ)
    (hc : ∀ f ∈ c.red ++ c.full, f ∈ univ) : inInterval c U = okOn c univ U := by
  rw [Bool.eq_iff_iff]
  simp only [inInterval, subsetOf, okOn, okAt, Bool.and_eq_true, List.all_eq_true,
    List.contains_iff_mem, Bool.or_eq_true, Bool.not_eq_true', List.mem_append]
  constructor
  · rintro ⟨h1, h2⟩ x _
    refine ⟨?_, ?_⟩
    · by_cases hr : x ∈ c.red
      · exact Or.inr (h1 x hr)
      · left; simpa using hr
    · by_cases hu : x ∈ U
      · rcases h2 x hu with h | h
        · exact Or.inl (Or.inr h)
        · exact Or.inr h
      · left; left; simpa using hu
  · intro h
    refine ⟨fun x hx => ?_, fun x hx => ?_⟩
    · rcases (h x (hc x (List.mem_append.2 (Or.inl hx)))).1 with h' | h'
      · have : x ∉ c.red := by simpa using h'
        exact absurd hx this
      · exact h'
    · rcases (h x (mem_sublists hU x hx)).2 with (h' | h') | h'
      · have : x ∉ U := by simpa using h'
        exact absurd hx this
      · exact Or.inl h'
      · exact Or.inr h'

theorem prodList_perm {a b : List Nat} (h : a.Perm b) : prodList a = prodList b := by
  induction h with
  | nil => rfl
  | cons x _ ih => simp [prodList, ih]
  | swap x y l => simp only [prodList]; rw [← Nat.mul_assoc, ← Nat.mul_assoc, Nat.mul_comm y x]
  | trans _ _ ih1 ih2 => rw [ih1, ih2]

theorem prodList_map_mul {α : Type} (l : List α) (f g : α → Nat) :
    prodList (l.map f) * prodList (l.map g) = prodList (l.map (fun x => f x * g x)) := by
  induction l with
  | nil => simp [prodList]
  | cons x xs ih =>
    simp only [List.map_cons, prodList, ← ih]
    rw [Nat.mul_assoc, Nat.mul_assoc, Nat.mul_left_comm (prodList (xs.map f))]

theorem prodList_over_univ (h : String → Nat) (univ : List String) (hu : univ.Nodup) (l : List String)
    (hl : l.Nodup) (hsub : ∀ x ∈ l, x ∈ univ) :
    prodList (l.map h) = prodList (univ.map (fun x => if l.contains x then h x else 1)) := by
  rw [← prodList_perm ((Contrasts.filter_contains_perm hu hl hsub).map h)]
  clear hu hsub
  induction univ with
  | nil => rfl
  | cons x xs ih =>
    by_cases hx : l.contains x = true <;>
      simp only [List.filter_cons, List.map_cons, prodList, hx, if_true, if_false, ih, Nat.one_mul,
        Bool.false_eq_true]

theorem columns_eq_prod (levels : String → Nat) (c : CTerm) (univ : List String) (hu : univ.Nodup)
    (hnd : (c.red ++ c.full).Nodup) (hc : ∀ f ∈ c.red ++ c.full, f ∈ univ) :
    columns levels c = prodList (univ.map (colFactor levels c)) := by
  rw [List.nodup_append] at hnd
  obtain ⟨hr, hf, hdisj⟩ := hnd
  unfold columns
  rw [prodList_over_univ (fun f => levels f - 1) univ hu c.red hr
        (fun x hx => hc x (List.mem_append.2 (Or.inl hx))),
      prodList_over_univ levels univ hu c.full hf
        (fun x hx => hc x (List.mem_append.2 (Or.inr hx))),
      prodList_map_mul]
  congr 1
  apply List.map_congr_left
  intro x _
  simp only [colFactor]
  by_cases h1 : x ∈ c.red
  · have h2 : x ∉ c.full := fun h2 => hdisj x h1 x h2 rfl
    simp [h1, h2]
  · simp [h1]

theorem columns_eq_sum (levels : String → Nat) (hpos : ∀ f, 1 ≤ levels f) (c : CTerm)
    (univ : List String) (hu : univ.Nodup) (hnd : (c.red ++ c.full).Nodup)
    (hc : ∀ f ∈ c.red ++ c.full, f ∈ univ) :
    columns levels c =
      sumList ((sublists univ).map (fun U => if inInterval c U then weight levels U else 0)) := by
  rw [columns_eq_prod levels c univ hu hnd hc, ← sum_okOn levels hpos c univ hu]
  apply sumList_congr
  intro U hU
  rw [inInterval_eq_okOn c univ U hU hc]

theorem sumList_swap {α β : Type} (l : List α) (m : List β) (f : α → β → Nat) :
    sumList (l.map (fun c => sumList (m.map (f c)))) =
      sumList (m.map (fun u => sumList (l.map (fun c => f c u)))) := by
  induction l with
  | nil => simp only [List.map_nil, sumList]; rw [sumList_zero]
  | cons x xs ih =>
    simp only [List.map_cons, sumList, ih]
    rw [← sumList_map_add]

theorem sumList_ite_countP {α : Type} (l : List α) (p : α → Bool) (w : Nat) :
    sumList (l.map (fun c => if p c then w else 0)) = l.countP p * w := by
  induction l with
  | nil => simp [sumList]
  | cons x xs ih =>
    simp only [List.map_cons, sumList, ih, List.countP_cons]
    by_cases h : p x = true <;> simp [h, Nat.add_mul, Nat.add_comm]

theorem block_columns (levels : String → Nat) (hpos : ∀ f, 1 ≤ levels f) (fam : List STerm)
    (coding : List CTerm) (univ : List String) (hu : univ.Nodup)
    (hnd : ∀ c ∈ coding, (c.red ++ c.full).Nodup)
    (hc : ∀ c ∈ coding, ∀ f ∈ c.red ++ c.full, f ∈ univ)
    (hp : Partition fam coding) (N : List String) :
    totalColumns levels (coding.filter (fun c => sameSet c.num N)) = blockDim levels univ fam N := by
  unfold totalColumns blockDim
  have h1 : sumList ((coding.filter (fun c => sameSet c.num N)).map (columns levels)) =
      sumList ((coding.filter (fun c => sameSet c.num N)).map (fun c =>
        sumList ((sublists univ).map (fun U => if inInterval c U then weight levels U else 0)))) := by
    apply sumList_congr
    intro c hcm
    have hcm' := (List.mem_filter.1 hcm).1
    exact columns_eq_sum levels hpos c univ hu (hnd c hcm') (hc c hcm')
  rw [h1, sumList_swap]
  apply sumList_congr
  intro U _
  rw [sumList_ite_countP, List.countP_filter]
  have := hp N U
  simp only [count] at this
  have e : List.countP (fun a => inInterval a U && sameSet a.num N) coding =
      List.countP (fun c => sameSet c.num N && inInterval c U) coding := by
    apply List.countP_congr; intro c _; simp [Bool.and_comm]
  rw [e, this]
  split <;> simp

theorem subsetOf_iff {a b : List String} : subsetOf a b = true ↔ ∀ x ∈ a, x ∈ b := by
  simp [subsetOf]

theorem sameSet_iff {a b : List String} : sameSet a b = true ↔ ∀ x, x ∈ a ↔ x ∈ b :=
  Contrasts.memEq_iff

theorem sameSet_symm {a b : List String} : sameSet a b = sameSet b a := by
  simp [sameSet, Bool.and_comm]

theorem sameSet_trans {a b c : List String} (h1 : sameSet a b = true) (h2 : sameSet b c = true) :
    sameSet a c = true := by
  rw [sameSet_iff] at *
  intro x; exact (h1 x).trans (h2 x)

theorem dedupStr_eq (l : List String) : dedupStr l = Contrasts.dedup l := by
  induction l with
  | nil => rfl
  | cons y ys ih => simp only [dedupStr, Contrasts.dedup, ih]

theorem mem_dedupStr {l : List String} {x : String} : x ∈ dedupStr l ↔ x ∈ l :=
  dedupStr_eq l ▸ Contrasts.mem_dedup x l

theorem nodup_dedupStr (l : List String) : (dedupStr l).Nodup :=
  dedupStr_eq l ▸ Contrasts.nodup_dedup l

theorem distinctParts_count (M : List String) (l : List (List String)) :
    (distinctParts l).countP (fun N => sameSet M N) = if l.any (fun N => sameSet M N) then 1 else 0 := by
  induction l with
  | nil => simp [distinctParts]
  | cons N rest ih =>
    simp only [distinctParts, List.any_cons]
    by_cases hr : rest.any (sameSet N) = true
    · simp only [hr, if_true, ih]
      by_cases hM : sameSet M N = true
      · -- M ≈ N ≈ some element of rest
        obtain ⟨N', hN', h'⟩ := List.any_eq_true.1 hr
        have : rest.any (fun N => sameSet M N) = true :=
          List.any_eq_true.2 ⟨N', hN', sameSet_trans hM h'⟩
        simp [hM, this]
      · simp [hM]
    · simp only [hr, Bool.false_eq_true, if_false, List.countP_cons, ih]
      by_cases hM : sameSet M N = true
      · have : rest.any (fun N => sameSet M N) = false := by
          rw [Bool.eq_false_iff]
          intro h
          obtain ⟨N', hN', h'⟩ := List.any_eq_true.1 h
          apply hr
          rw [sameSet_symm] at hM
          exact List.any_eq_true.2 ⟨N', hN', sameSet_trans hM h'⟩
        simp [hM, this]
      · simp [hM]

theorem totalColumns_filter (levels : String → Nat) (coding : List CTerm) (N : List String) :
    totalColumns levels (coding.filter (fun c => sameSet c.num N)) =
      sumList (coding.map (fun c => if sameSet c.num N then columns levels c else 0)) := by
  unfold totalColumns
  induction coding with
  | nil => rfl
  | cons c cs ih =>
    simp only [List.filter_cons, List.map_cons, sumList]
    by_cases h : sameSet c.num N = true <;> simp [h, sumList, ih]

end FormulaeModel.Spec.C03
