import FormulaeModel.Spec.C01
import FormulaeModel.Proofs.ParserYield
/-
Every tree the parser returns is a derivation of the grammar of its table (`Stratified`).
-/
namespace FormulaeModel.Parser
open FormulaeModel.Spec.C01

variable (T : Table)

theorem opLevel_of_mem (hT : levelsOK T = true) (m : Nat) (ops : List Kind)
    (rest : List (List Kind)) (h : T.levels.drop m = ops :: rest) (k : Kind) (hk : ops.contains k = true) :
    opLevel T k = some m := by
  have hm : m < T.levels.length := by
    apply Nat.lt_of_not_le; intro hc
    have : T.levels.drop m = [] := List.drop_eq_nil_of_le hc
    simp_all
  have hget : T.levels.getD m [] = ops := by
    have : T.levels[m]? = some ops := by
      have := congrArg List.head? h
      simpa [List.head?_drop] using this
    simp [List.getD, this]
  unfold levelsOK at hT
  rw [List.all_eq_true] at hT
  have h1 := hT m (by simp [hm])
  rw [hget, List.all_eq_true] at h1
  have hk' : k ∈ ops := by simpa using hk
  have h2 := h1 k hk'
  simpa [opLevel] using h2

/-- The second half of `tilde` is what `assignment` needs of its target. -/
structure StratAt (n : Nat) : Prop where
  expression : ∀ ts e r, expression T n ts = .ok (e, r) → stratTop T e = true
  assignment : ∀ ts e r, assignment T n ts = .ok (e, r) → stratTop T e = true
  tilde : ∀ ts e r, tilde T n ts = .ok (e, r) → stratTop T e = true ∧ (isVariable e = true → stratBin T e = true)
  binLevel : ∀ m ts e r, m ≤ T.levels.length → binLevel T n (T.levels.drop m) ts = .ok (e, r) →
    stratBin T e = true ∧ m ≤ lvl T e
  binLoop : ∀ m ops rest acc ts e r, T.levels.drop m = ops :: rest → stratBin T acc = true → m ≤ lvl T acc →
    binLoop T n ops rest acc ts = .ok (e, r) → stratBin T e = true ∧ m ≤ lvl T e
  unary : ∀ ts e r, unary T n ts = .ok (e, r) → stratBin T e = true ∧ T.levels.length ≤ lvl T e
  call : ∀ ts e r, call T n ts = .ok (e, r) →
    stratBin T e = true ∧ lvl T e = T.levels.length + 1 ∧ (isPrimary e || isCall e) = true
  callLoop : ∀ acc ts e r, stratBin T acc = true → (isPrimary acc || isCall acc) = true →
    callLoop T n acc ts = .ok (e, r) →
    stratBin T e = true ∧ lvl T e = T.levels.length + 1 ∧ (isPrimary e || isCall e) = true
  argList : ∀ ts a r, argList T n ts = .ok (a, r) → stratArgs T a = true ∧ a ≠ .nil
  primary : ∀ ts e r, primary T n ts = .ok (e, r) → stratBin T e = true ∧ isPrimary e = true

theorem lvl_of_primary_or_call (e : Expr) (h : (isPrimary e || isCall e) = true) :
    lvl T e = T.levels.length + 1 := by
  cases e <;> simp_all [isPrimary, isCall, lvl]

theorem opLevel_closer (hW : TableWF T = true) (k : Kind) (hk : closers.contains k = true) :
    opLevel T k = none := by
  unfold TableWF at hW
  simp only [Bool.and_eq_true, List.all_eq_true] at hW
  obtain ⟨⟨⟨_, h2⟩, _⟩, _⟩ := hW
  simp only [opLevel, List.findIdx?_eq_none_iff]
  intro ops hops
  have := h2 ops hops
  by_cases hc : ops.contains k = true
  · have h3 := this k (by simpa using hc)
    simp_all
  · simpa using hc

theorem stratTop_of_stratBin (hW : TableWF T = true) (e : Expr) (h : stratBin T e = true) :
    stratTop T e = true := by
  cases e with
  | binary l op r =>
    simp only [stratTop]
    split
    · rename_i hk
      have hk' : op.kind = .TILDE := by simpa using hk
      have := opLevel_closer T hW .TILDE (by decide)
      simp [stratBin, hk', this] at h
    · exact h
  | assign => simp [stratBin] at h
  | _ => simpa [stratTop] using h

theorem levelsOK_of_wf (hW : TableWF T = true) : levelsOK T = true := by
  unfold TableWF at hW; simp only [Bool.and_eq_true] at hW; exact hW.1.1.1

theorem tildeRight_le_of_wf (hW : TableWF T = true) : T.tildeRight ≤ T.levels.length := by
  unfold TableWF at hW; simp only [Bool.and_eq_true, decide_eq_true_eq] at hW; exact hW.2

theorem unaryOps_of_wf (hW : TableWF T = true) {k : Kind} (hk : T.unaryOps.contains k = true) :
    closers.contains k = false ∧ starters.contains k = false := by
  unfold TableWF at hW
  simp only [Bool.and_eq_true, List.all_eq_true] at hW
  simpa using hW.1.2 k (by simpa using hk)

theorem drop_succ_of_drop {m : Nat} {ops : List Kind} {lv} (hd : T.levels.drop m = ops :: lv) :
    T.levels.drop (m + 1) = lv ∧ m < T.levels.length := by
  constructor
  · have := congrArg List.tail hd
    simpa [List.tail_drop] using this
  · have := congrArg List.length hd
    simp at this; omega

theorem stratAt_succ (hW : TableWF T = true) (n : Nat) (ih : StratAt T n) : StratAt T (n + 1) where
  expression ts e r h := ih.assignment ts e r (by rwa [expression] at h)
  assignment ts e r h := by
    obtain ⟨l, ts1, h1, ⟨rfl, rfl⟩ | ⟨t, ts2, v, rfl, ht, hvar, h2, rfl⟩⟩ := assignment_ok h
    · exact (ih.tilde _ _ _ h1).1
    · have hv := ih.binLevel _ _ _ _ (tildeRight_le_of_wf T hW) h2
      simp [stratTop, hvar, (ih.tilde _ _ _ h1).2 hvar, ht, hv]
  tilde ts e r h := by
    obtain ⟨l, ts1, h1, ⟨rfl, rfl⟩ | ⟨t, ts2, v, rfl, ht, h2, rfl⟩⟩ := tilde_ok h
    · have hl := ih.binLevel 0 _ _ _ (Nat.zero_le _) h1
      exact ⟨stratTop_of_stratBin T hW _ hl.1, fun _ => hl.1⟩
    · have hl := ih.binLevel 0 _ _ _ (Nat.zero_le _) h1
      have hv := ih.binLevel _ _ _ _ (tildeRight_le_of_wf T hW) h2
      exact ⟨by simp [stratTop, ht, hl.1, hv], nofun⟩
  binLevel m ts e r hm h := by
    cases hd : T.levels.drop m with
    | nil =>
      rw [hd, binLevel] at h
      have := ih.unary _ _ _ h
      have := List.drop_eq_nil_iff.1 hd
      exact ⟨‹_ ∧ _›.1, by omega⟩
    | cons ops rest =>
      rw [hd] at h
      obtain ⟨l, ts1, h1, h2⟩ := binLevel_ok h
      obtain ⟨hrest, hm1⟩ := drop_succ_of_drop T hd
      rw [← hrest] at h1
      have hl := ih.binLevel (m + 1) _ _ _ hm1 h1
      exact ih.binLoop m ops rest _ _ _ _ hd hl.1 (by omega) h2
  binLoop m ops rest acc ts e r hd hacc hlacc h := by
    obtain ⟨rfl, rfl⟩ | ⟨t, ts1, v, ts2, rfl, hk, h1, h2⟩ := binLoop_ok h
    · exact ⟨hacc, hlacc⟩
    · obtain ⟨hrest, hm1⟩ := drop_succ_of_drop T hd
      rw [← hrest] at h1
      have hv := ih.binLevel (m + 1) _ _ _ hm1 h1
      have hop := opLevel_of_mem T (levelsOK_of_wf T hW) m ops rest hd t.kind hk
      refine ih.binLoop m ops rest _ _ _ _ hd ?_ ?_ h2
      · simp [stratBin, hop, hacc, hv.1, hlacc]; omega
      · simp [lvl, hop]
  unary ts e r h := by
    obtain h | ⟨t, ts1, v, rfl, hk, h1, rfl⟩ := unary_ok h
    · have := ih.call _ _ _ h
      exact ⟨this.1, by omega⟩
    · have := ih.unary _ _ _ h1
      exact ⟨by simpa [stratBin, this] using hk, by simp [lvl]⟩
  call ts e r h := by
    obtain ⟨c, ts1, h1, h2⟩ := call_ok h
    have := ih.primary _ _ _ h1
    exact ih.callLoop _ _ _ _ this.1 (by simp [this.2]) h2
  callLoop acc ts e r hacc hpc h := by
    obtain ⟨rfl, rfl⟩ | ⟨t, ts1, as, rp, ts4, rfl, ht, hrp, ha, h2⟩ := callLoop_ok h
    · exact ⟨hacc, lvl_of_primary_or_call T _ hpc, hpc⟩
    · have has : stratArgs T as = true := by
        obtain ⟨rfl, rfl⟩ | ha := ha
        · simp [stratArgs]
        · exact (ih.argList _ _ _ ha).1
      exact ih.callLoop _ _ _ _ (by simpa [stratBin, hacc, ht, hrp, has] using hpc) rfl h2
  argList ts a r h := by
    obtain ⟨e, ts1, h1, ⟨rfl, rfl⟩ | ⟨t, ts2, rest, rfl, ht, h2, rfl⟩⟩ := argList_ok h
    · exact ⟨by simpa [stratArgs] using ih.expression _ _ _ h1, nofun⟩
    · obtain ⟨hr, hne⟩ := ih.argList _ _ _ h2
      refine ⟨?_, nofun⟩
      cases rest with
      | nil => exact absurd rfl hne
      | _ => simp [stratArgs, ih.expression _ _ _ h1, ht, hr]
  primary ts e r h := by
    obtain ⟨t, ts1, rfl, ⟨ht, rfl, rfl⟩ | ⟨lb, ts2, lv, rb, ht, rfl, hlb, h1, hok, hrb, rfl⟩ |
      ⟨ht, rfl, rfl⟩ | ⟨ht, rfl, rfl⟩ | ⟨b, rp, ht, h1, hrp, rfl⟩ | ⟨b, rb, ht, h1, hrb, rfl⟩⟩ :=
      primary_ok h
    · exact ⟨by simp [stratBin, ht], rfl⟩
    · have := ih.primary _ _ _ h1
      exact ⟨by simp [stratBin, ht, hlb, hrb, hok, this], rfl⟩
    · exact ⟨by simpa [stratBin, or_assoc] using ht, rfl⟩
    · exact ⟨by simp [stratBin, ht], rfl⟩
    · exact ⟨by simp [stratBin, ht, hrp, ih.expression _ _ _ h1], rfl⟩
    · exact ⟨by simp [stratBin, ht, hrb, ih.expression _ _ _ h1], rfl⟩

theorem stratAt (hW : TableWF T = true) (n : Nat) : StratAt T n := by
  induction n with
  | zero => constructor <;> intros <;> contradiction
  | succ n ih => exact stratAt_succ T hW n ih

end FormulaeModel.Parser
