import FormulaeModel.Model.Design
import FormulaeModel.Proofs.Coding
/-
Lemmas behind the agreement of the two models of the contrast codings (`Properties/Bridge.lean`):
`Model/Coding.lean` (property C13: the code of categorical.py line by line, `np.eye`, `take`/`drop`
splicing, integer omit index) and the compact coding inside `Model/Design.lean` (evaluation model of
C04-C10, C15-C17: rows written as a function of the row number).  The reduced codings
agree for levels of any type that `str` separates; `code_agree_nil` is the excluded empty level
list (categorical.py raises from `np.eye(-1)`, the evaluation model never codes an empty list and
returns an empty matrix there).
-/
namespace FormulaeModel.Bridge

/-- the same encoding in the evaluation model's vocabulary -/
def toDesign : Coding.Contrast → Design.Contrast
  | .treatment r => .treatment (r.map Level.s)
  | .sum o => .sum (o.map Level.s)

/-- what is compared: matrix rows and column labels; any exception is `none` -/
def viewD : Design.M Design.ContrastMatrix → Option (List (List Int) × List String)
  | .ok cm => some (cm.rows, cm.labels)
  | .error _ => none

def viewC : Except Coding.Err Coding.ContrastMatrix → Option (List (List Int) × List String)
  | .ok cm => some (cm.matrix, cm.labels)
  | .error _ => none

theorem eye_eq_unitRows (n : Nat) : Coding.eye n = (List.range n).map (Design.unitRow n) := by
  simp only [Coding.eye]
  apply List.map_congr_left
  intro i _
  apply List.map_congr_left
  intro j _
  by_cases h : i = j
  · simp [h]
  · have h' : ¬ j = i := fun e => h e.symm
    simp [h, h']

theorem unitRows_splice (n r : Nat) (hr : r < n) (z : List Int) :
    (List.range n).map (fun i =>
      if i < r then Design.unitRow (n - 1) i else if i == r then z
      else Design.unitRow (n - 1) (i - 1))
    = (Coding.eye (n - 1)).take r ++ [z] ++ (Coding.eye (n - 1)).drop r := by
  rw [eye_eq_unitRows, Proofs.Coding.splice_eq _ _ (by omega), Nat.sub_add_cancel (by omega)]
  simp only [beq_iff_eq]

/-! ### Levels of any type (strings or integers)

The evaluation model also codes integer levels (`C(k)`, grouping by an integer column); the code
and `Model/Coding.lean` see them through `str(level)`.  Whenever `str` separates the levels at hand
(and the option, if given) the two models agree as well. -/

/-- `str` is injective on `x :: levels` -/
def LabelInj (x : Option Level) (levels : List Level) : Prop :=
  ∀ a b, (a ∈ levels ∨ some a = x) → b ∈ levels → a.label = b.label → a = b

theorem findIdx_label (x : Level) (levels : List Level)
    (hinj : ∀ b, b ∈ levels → x.label = b.label → x = b) :
    levels.findIdx (· == x) = (levels.map Level.label).idxOf x.label := by
  induction levels with
  | nil => rfl
  | cons a rest ih =>
    have ih' := ih (fun b hb => hinj b (List.mem_cons_of_mem _ hb))
    by_cases hax : a = x
    · subst hax
      simp [List.findIdx_cons]
    · have hl : ¬ a.label = x.label := fun e => hax (hinj a (List.mem_cons_self) e.symm).symm
      rw [List.map_cons, List.findIdx_cons, List.idxOf_cons, ih']
      have h1 : (a == x) = false := by simpa using hax
      have h2 : (a.label == x.label) = false := by simpa using hl
      rw [h1, h2]

theorem indexOf?_label (x : Level) (levels : List Level)
    (hinj : ∀ b, b ∈ levels → x.label = b.label → x = b) :
    Design.indexOf? x levels =
      if x.label ∈ levels.map Level.label then some ((levels.map Level.label).idxOf x.label)
      else none := by
  simp only [Design.indexOf?, findIdx_label x levels hinj]
  by_cases h : x.label ∈ levels.map Level.label
  · have := List.idxOf_lt_length_iff.mpr h
    simp only [List.length_map] at this
    simp [h, this]
  · have : ¬ (levels.map Level.label).idxOf x.label < levels.length := fun hl =>
      h (List.idxOf_lt_length_iff.mp (by simpa using hl))
    simp [h, this]

theorem labels_drop (levels : List Level) (r : Nat) :
    (levels.take r ++ levels.drop (r + 1)).map Level.label =
      Coding.dropLevel (levels.map Level.label) r := by
  simp only [Coding.dropLevel, List.map_append, List.map_take, List.map_drop]

theorem treatmentReduced_agree_levels (r : Option Level) (levels : List Level) (hne : levels ≠ [])
    (hinj : ∀ x, r = some x → ∀ b, b ∈ levels → x.label = b.label → x = b) :
    viewD (Design.treatmentReduced r levels) =
      viewC (Coding.Treatment.codeWithoutIntercept (r.map Level.label) (levels.map Level.label)) := by
  have hlen : 0 < levels.length := List.length_pos_iff.mpr hne
  have hlen' : levels.length ≠ 0 := by omega
  cases r with
  | none =>
    simp only [viewD, viewC, Design.treatmentReduced, Coding.Treatment.codeWithoutIntercept,
      Coding.Treatment.referenceIndex, bind, Except.bind, pure, Except.pure, hlen', Option.map_none,
      List.length_map, if_false, unitRows_splice _ 0 hlen, labels_drop]
  | some x =>
    have hi := indexOf?_label x levels (hinj x rfl)
    by_cases hx : x.label ∈ levels.map Level.label
    · have hr : (levels.map Level.label).idxOf x.label < levels.length := by
        simpa using List.idxOf_lt_length_iff.mpr hx
      simp only [viewD, viewC, Design.treatmentReduced, Coding.Treatment.codeWithoutIntercept,
        Coding.Treatment.referenceIndex, bind, Except.bind, pure, Except.pure, hlen', Option.map_some,
        List.length_map, if_false, hi, hx, if_true, unitRows_splice _ _ hr, labels_drop]
    · simp only [viewD, viewC, Design.treatmentReduced, Coding.Treatment.codeWithoutIntercept,
        Coding.Treatment.referenceIndex, bind, Except.bind, Option.map_some, hi, hx, if_false]

theorem sumReduced_agree_levels (o : Option Level) (levels : List Level) (hne : levels ≠ [])
    (hinj : ∀ x, o = some x → ∀ b, b ∈ levels → x.label = b.label → x = b) :
    viewD (Design.sumReduced o levels) =
      viewC (Coding.Sum.codeWithoutIntercept (o.map Level.label) (levels.map Level.label)) := by
  have hlen : 0 < levels.length := List.length_pos_iff.mpr hne
  have hlen' : levels.length ≠ 0 := by omega
  cases o with
  | none =>
    have hr : levels.length - 1 < levels.length := by omega
    -- `Sum._omit_index` is an `Int` because Python's `len(levels) - 1` is `-1` for no level
    have hcast : ((levels.length : Int) - 1).toNat = levels.length - 1 := by omega
    simp only [viewD, viewC, Design.sumReduced, Design.sumOmitIndex, Coding.Sum.codeWithoutIntercept,
      Coding.Sum.sumContrast, Coding.Sum.omitIndex, bind, Except.bind, pure, Except.pure, hlen',
      Option.map_none, List.length_map, if_false, hcast, unitRows_splice _ _ hr, labels_drop]
  | some x =>
    have hi := indexOf?_label x levels (hinj x rfl)
    by_cases hx : x.label ∈ levels.map Level.label
    · have hr : (levels.map Level.label).idxOf x.label < levels.length := by
        simpa using List.idxOf_lt_length_iff.mpr hx
      have hcast : (((levels.map Level.label).idxOf x.label : Nat) : Int).toNat =
          (levels.map Level.label).idxOf x.label := by omega
      simp only [viewD, viewC, Design.sumReduced, Design.sumOmitIndex,
        Coding.Sum.codeWithoutIntercept, Coding.Sum.sumContrast, Coding.Sum.omitIndex, bind,
        Except.bind, pure, Except.pure, hlen', Option.map_some, List.length_map, if_false,
        hi, hx, if_true, hcast, unitRows_splice _ _ hr, labels_drop]
    · simp only [viewD, viewC, Design.sumReduced, Design.sumOmitIndex,
        Coding.Sum.codeWithoutIntercept, Coding.Sum.sumContrast, Coding.Sum.omitIndex, bind,
        Except.bind, Option.map_some, hi, hx, if_false]

def Design.Contrast.option : Design.Contrast → Option Level
  | .treatment r => r
  | .sum o => o

def toCoding : Design.Contrast → Coding.Contrast
  | .treatment r => .treatment (r.map Level.label)
  | .sum o => .sum (o.map Level.label)

theorem labels_full (levels : List String) : (levels.map Level.s).map Level.label = levels := by
  rw [List.map_map]
  have : (Level.label ∘ Level.s) = id := by funext y; rfl
  simp [this]

theorem toCoding_toDesign (c : Coding.Contrast) : toCoding (toDesign c) = c := by
  cases c <;> rename_i o <;> cases o <;> rfl

/-- the excluded point, on the default treatment coding: with no level categorical.py (and
`Model/Coding.lean`) raise from `np.eye(-1)`, the evaluation model returns the empty matrix. -/
theorem code_agree_nil :
    viewC (Coding.Contrast.code (.treatment none) false []) = none ∧
    viewD (Design.Contrast.code (.treatment none) false []) = some ([], []) := by
  decide

end FormulaeModel.Bridge
