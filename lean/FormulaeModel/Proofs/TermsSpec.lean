import FormulaeModel.Proofs.TermsGood
/-
C02, layer 2: each closed-form operator, read through `dedup` (first-occurrence de-duplication of
the implementation's term list), is the Wilkinson–Rogers set operation of `Spec.C02.denT`.
-/
namespace FormulaeModel.Terms
open FormulaeModel.Spec.C02

theorem interS_dedup (A B : List STerm) : interS (dedup A) (dedup B) = dedup (pairs A B) := by
  unfold interS pairs interT
  rw [nub_eq, dedup_flatMap_dedup]
  apply dedup_flatMap_congr
  intro x _
  exact dedup_map_dedup _ _

theorem sameSet_iff {α : Type} [BEq α] [LawfulBEq α] {A B : List α} :
    sameSet A B = true ↔ ∀ x, x ∈ A ↔ x ∈ B := by
  simp only [sameSet, Bool.and_eq_true, List.all_eq_true, List.contains_iff_mem]
  constructor
  · rintro ⟨h1, h2⟩ x; exact ⟨h1 x, h2 x⟩
  · intro h; exact ⟨fun x hx => (h x).1 hx, fun x hx => (h x).2 hx⟩

theorem spec_padd (p q : PV) :
    dedup (padd p q).list = union (dedup p.list) (dedup q.list) := by
  rw [padd_list, dedup_addL, union_dedup]

/-- `list.remove` takes out one occurrence: the left operand of `-` must hold no term twice -/
theorem spec_psub (p q : PV) (hp : p.list.Nodup) :
    dedup (psub p q).list = diff (dedup p.list) (dedup q.list) := by
  rw [psub_list, remL_of_nodup hp, diff_dedup]

theorem spec_pmatmul (p q : PV) (hp : Good p) :
    dedup (pmatmul p q).list = interS (dedup p.list) (dedup q.list) := by
  rw [pmatmul_list hp, interS_dedup]

/-- `m * m` for equal models with at most one distinct term is still right -/
theorem mul_same {M O : List STerm} (hM : ∀ t ∈ M, GoodT t) (hs : sameSet M O = true)
    (hl : (dedup M).length < 2) : dedup M = dedup ((M ++ O) ++ pairs M O) := by
  have hmem := sameSet_iff.1 hs
  match hd : dedup M with
  | [] =>
    have hMnil : M = [] := by
      apply List.eq_nil_iff_forall_not_mem.2
      intro x hx
      have : x ∈ dedup M := mem_dedup.2 hx
      rw [hd] at this; simp at this
    have hOnil : O = [] := by
      apply List.eq_nil_iff_forall_not_mem.2
      intro x hx
      have := (hmem x).2 hx
      rw [hMnil] at this; simp at this
    subst hMnil; subst hOnil
    simp [pairs]
  | [t] =>
    have hMt : ∀ x ∈ M, x = t := by
      intro x hx
      have : x ∈ dedup M := mem_dedup.2 hx
      rw [hd] at this; simpa using this
    have hOt : ∀ x ∈ O, x = t := fun x hx => hMt x ((hmem x).2 hx)
    have hne : M ≠ [] := by
      intro e; rw [e] at hd; simp at hd
    have htM : t ∈ M := by
      have : t ∈ dedup M := by rw [hd]; simp
      exact mem_dedup.1 this
    symm
    apply dedup_eq_singleton
    · simp [hne]
    · intro x hx
      simp only [List.mem_append] at hx
      rcases hx with (h | h) | h
      · exact hMt x h
      · exact hOt x h
      · obtain ⟨u, hu, v, hv, rfl⟩ := mem_pairs.1 h
        rw [hMt u hu, hOt v hv]
        exact dedup_append_self (hM t htM).1
  | _ :: _ :: _ =>
    rw [hd] at hl
    simp only [List.length_cons] at hl
    omega

/-- the `if self == other: return self` shortcut of `Model.__mul__` is only taken when the two
models hold at most one distinct term (outside the D22 class) -/
def NoD22 : PV → PV → Prop
  | .m M, .m O => sameSet M O = true → (dedup M).length < 2
  | _, _ => True

theorem spec_pmul (p q : PV) (hp : Good p) (h22 : NoD22 p q) :
    dedup (pmul p q).list =
      union (union (dedup p.list) (dedup q.list)) (interS (dedup p.list) (dedup q.list)) := by
  rw [interS_dedup, union_dedup, union_dedup]
  cases p with
  | t a =>
    cases q with
    | t b =>
      by_cases hab : (a == b) = true
      · have : a = b := eq_of_beq hab
        subst this
        have ha : a.Nodup := (hp a (by simp [PV.list])).1
        simp [pmul, PV.list, pairs, dedup_append_self ha, dedup]
      · simp [pmul, hab, PV.list, pairs]
    | m O =>
      simp only [pmul, PV.list, dedup_addL, pairs_singleton_left]
      rfl
  | m M =>
    cases q with
    | t b => simp only [pmul, PV.list, dedup_addL, pairs_singleton_right]
    | m O =>
      by_cases hs : sameSet M O = true
      · simp only [pmul, hs, if_true, PV.list]
        exact mul_same hp hs (h22 hs)
      · simp only [pmul, hs, Bool.false_eq_true, if_false, PV.list, dedup_addL]

theorem spec_pdiv (p q : PV) (hp : Good p) :
    dedup (pdiv p q).list =
      union (dedup p.list)
        (nub ((dedup q.list).map (fun y => interT (dedup (dedup p.list).flatten) y))) := by
  have h1 : (fun y => interT (dedup (dedup p.list).flatten) y) =
      (fun y => dedup (p.list.flatten ++ y)) := by
    funext y
    simp only [interT, dedup_flatten_dedup, dedup_dedup_append]
  rw [h1, nub_eq, dedup_map_dedup, union_dedup]
  cases p with
  | t a =>
    cases q with
    | t b =>
      by_cases hab : (a == b) = true
      · have : a = b := eq_of_beq hab
        subst this
        have ha : a.Nodup := (hp a (by simp [PV.list])).1
        simp [pdiv, PV.list, dedup_append_self ha, dedup]
      · simp [pdiv, hab, PV.list]
    | m O =>
      simp only [pdiv, PV.list, dedup_addL]
      simp
  | m M =>
    cases q with
    | t b => simp only [pdiv, PV.list, dedup_addL, List.map_cons, List.map_nil]
    | m O => simp only [pdiv, PV.list, dedup_addL]

theorem combsUpTo_short {α : Type} (M : List α) (n : Nat) (h : M.length < 2) :
    combsUpTo M n = [] := by
  unfold combsUpTo
  apply List.flatMap_eq_nil_iff.2
  intro i _
  split
  · exact combinations_short M i (by omega)
  · rfl

theorem spec_ppow (p : PV) (n : Nat) (hp : p.list.Nodup) :
    dedup (ppow p n).list =
      union (dedup p.list)
        (nub ((combsUpTo (dedup p.list) n).map (fun ts => dedup ts.flatten))) := by
  cases p with
  | t a =>
    simp [ppow, PV.list, combsUpTo_short, nub_eq, union]
  | m M =>
    have hM : M.Nodup := hp
    simp only [ppow, PV.list, dedup_addL, nub_eq]
    rw [union_dedup, dedup_of_nodup hM]

end FormulaeModel.Terms
