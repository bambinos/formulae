import FormulaeModel.Proofs.GroupBlockRows
/-
The indicator matrix of a grouping factor (`newFactorMatrix`): row `r` is the indicator row of the
cell of row `r` (`rowCell`), or zeros when some grouping value of the row is not a level.  Training
produces this matrix from the training columns (`FactorOuts.values`, GroupBlockGroup), prediction
from the new ones (`newTerm_factor`, GroupBlockNew).
-/
namespace FormulaeModel.Design

/-- position of a value among the levels (`none`: missing or not a level) -/
def levelIndex (levels : List Level) (x : Option Level) : Option Nat :=
  x.bind (fun l => indexOf? l levels)

theorem indexOf?_of_mem {α} [DecidableEq α] (x : α) (xs : List α) (h : x ∈ xs) :
    ∃ i, indexOf? x xs = some i := by
  unfold indexOf?
  have : List.findIdx (fun y => y == x) xs < xs.length := by
    apply List.findIdx_lt_length_of_exists
    exact ⟨x, h, by simp⟩
  exact ⟨List.findIdx (fun y => y == x) xs, by simp [this]⟩

theorem levelIndex_none_iff (levels : List Level) (x : Option Level) :
    levelIndex levels x = none ↔ isUnseen levels x = true := by
  cases x with
  | none => simp [levelIndex, isUnseen]
  | some l =>
    simp only [levelIndex, Option.bind_some, isUnseen, Bool.not_eq_true', List.contains_eq_mem,
      decide_eq_false_iff_not]
    constructor
    · intro h hm
      obtain ⟨i, hi⟩ := indexOf?_of_mem l levels hm
      rw [hi] at h; simp at h
    · intro h
      cases hi : indexOf? l levels with
      | none => rfl
      | some i =>
        obtain ⟨hlt, hget⟩ := indexOf?_some l levels i hi
        exact absurd (hget ▸ List.getElem_mem hlt) h

theorem levelIndex_lt (levels : List Level) (x : Option Level) (i : Nat)
    (h : levelIndex levels x = some i) : i < levels.length := by
  cases x with
  | none => simp [levelIndex] at h
  | some l => exact (indexOf?_some l levels i (by simpa [levelIndex] using h)).1

theorem levelIndex_getD (levels : List Level) (xs : List (Option Level)) (r g : Nat)
    (h : levelIndex levels (xs.getD r none) = some g) :
    ∃ l, xs[r]? = some (some l) ∧ indexOf? l levels = some g := by
  rw [List.getD_eq_getElem?_getD] at h
  cases hx : xs[r]? with
  | none => rw [hx] at h; cases h
  | some x =>
    cases x with
    | none => rw [hx] at h; cases h
    | some l => exact ⟨l, rfl, by rw [hx] at h; exact h⟩

/-- zeros when the value is not among the levels -/
def indRow (levels : List Level) (x : Option Level) : List Entry :=
  match levelIndex levels x with
  | some i => unitE levels.length i
  | none => zeroE levels.length

theorem indRow_none (levels : List Level) (x : Option Level) (h : levelIndex levels x = none) :
    indRow levels x = zeroE levels.length := by simp [indRow, h]

theorem indRow_some (levels : List Level) (x : Option Level) (i : Nat) (h : levelIndex levels x = some i) :
    indRow levels x = unitE levels.length i := by simp [indRow, h]

theorem allSome_indRow (levels : List Level) (x : Option Level) : AllSome (indRow levels x) := by
  unfold indRow
  split
  · exact allSome_unitE _ _
  · exact allSome_zeroE _

theorem indRow_length (levels : List Level) (x : Option Level) : (indRow levels x).length = levels.length := by
  unfold indRow
  split
  · exact unitE_length _ _
  · exact zeroE_length _

theorem isZeroRow_indRow (levels : List Level) (x : Option Level) :
    isZeroRow (indRow levels x) = isUnseen levels x := by
  cases h : levelIndex levels x with
  | none => rw [indRow_none _ _ h, (levelIndex_none_iff _ _).1 h]; exact isZeroRow_zeroE _
  | some i =>
    rw [indRow_some _ _ i h, isZeroRow_unitE _ _ (levelIndex_lt _ _ i h)]
    cases hu : isUnseen levels x with
    | false => rfl
    | true => rw [(levelIndex_none_iff _ _).2 hu] at h; cases h

theorem foldl_rowProd_zeroE_indRow (qs : List (List Level × Option Level)) (w : Nat) :
    (qs.map (fun q => indRow q.1 q.2)).foldl rowProd (zeroE w) =
      zeroE (cellCount w (qs.map (·.1.length))) := by
  have := foldl_rowProd_zeroE (qs.map (fun q => indRow q.1 q.2)) w (by
    intro r hr
    obtain ⟨q, _, rfl⟩ := List.mem_map.1 hr
    exact allSome_indRow _ _)
  rw [this, List.map_map]
  congr 2
  apply List.map_congr_left
  intro q _
  exact indRow_length _ _

def cellOf (qs : List (List Level × Option Level)) : Option (List (Nat × Nat)) :=
  qs.mapM (fun q => (levelIndex q.1 q.2).map (fun g => (q.1.length, g)))

theorem cellOf_cons (q : List Level × Option Level) (qs : List (List Level × Option Level)) :
    cellOf (q :: qs) = (levelIndex q.1 q.2).bind (fun g => (cellOf qs).map (fun ps => (q.1.length, g) :: ps)) := by
  simp only [cellOf, List.mapM_cons, Option.bind_eq_bind, Option.pure_def]
  cases levelIndex q.1 q.2 with
  | none => rfl
  | some g =>
    cases List.mapM (fun (q : List Level × Option Level) =>
      (levelIndex q.1 q.2).map (fun g => (q.1.length, g))) qs <;> rfl

theorem foldl_rowProd_indRow (qs : List (List Level × Option Level)) (G g : Nat) (hg : g < G) :
    (qs.map (fun q => indRow q.1 q.2)).foldl rowProd (unitE G g) =
      match cellOf qs with
      | some ps => unitE (cellCount G (qs.map (·.1.length))) (cellIndex g ps)
      | none => zeroE (cellCount G (qs.map (·.1.length))) := by
  induction qs generalizing G g with
  | nil => rfl
  | cons q qs ih =>
    rw [cellOf_cons, List.map_cons, List.foldl_cons]
    cases hq : levelIndex q.1 q.2 with
    | none =>
      rw [indRow_none _ _ hq, rowProd_zeroE_right _ (allSome_unitE G g), unitE_length,
        foldl_rowProd_zeroE_indRow]
      rfl
    | some i =>
      have hi := levelIndex_lt q.1 q.2 i hq
      rw [indRow_some _ _ i hq, rowProd_unitE_unitE G q.1.length g i hi,
        ih (G * q.1.length) (g * q.1.length + i) (cell_lt _ _ _ _ hg hi)]
      cases cellOf qs <;> rfl

theorem cellOf_some_lt (qs : List (List Level × Option Level)) (ps : List (Nat × Nat))
    (h : cellOf qs = some ps) : (∀ p ∈ ps, p.2 < p.1) ∧ ps.map (·.1) = qs.map (·.1.length) := by
  induction qs generalizing ps with
  | nil =>
    simp only [cellOf, List.mapM_nil, Option.pure_def, Option.some.injEq] at h
    subst h; simp
  | cons q qs ih =>
    rw [cellOf_cons] at h
    cases hq : levelIndex q.1 q.2 with
    | none => rw [hq] at h; cases h
    | some i =>
      cases hps : cellOf qs with
      | none => rw [hq, hps] at h; cases h
      | some ps' =>
        rw [hq, hps] at h
        cases h
        obtain ⟨h1, h2⟩ := ih ps' hps
        refine ⟨?_, by simp [h2]⟩
        intro p hp
        rcases List.mem_cons.1 hp with rfl | hp
        · exact levelIndex_lt q.1 q.2 i hq
        · exact h1 p hp

def newCellRow (qs : List (List Level × Option Level)) : List Entry :=
  match cellOf qs with
  | some ps => unitE (cellCount 1 (qs.map (·.1.length))) (cellIndex 0 ps)
  | none => zeroE (cellCount 1 (qs.map (·.1.length)))

theorem isZeroRow_newCellRow (qs : List (List Level × Option Level)) :
    isZeroRow (newCellRow qs) = (cellOf qs).isNone := by
  unfold newCellRow
  cases h : cellOf qs with
  | none => exact isZeroRow_zeroE _
  | some ps =>
    obtain ⟨h1, h2⟩ := cellOf_some_lt qs ps h
    exact isZeroRow_unitE _ _ (h2 ▸ cellIndex_lt ps h1)

/-- the cell of row `r`: for every component (number of levels, position of the row's level) -/
def rowCell (levelss : List (List Level)) (cols : List (List (Option Level))) (r : Nat) :
    Option (List (Nat × Nat)) :=
  (levelss.zip cols).mapM (fun c => (levelIndex c.1 (c.2.getD r none)).map (fun g => (c.1.length, g)))

theorem rowCell_single (levels : List Level) (xs : List (Option Level)) (r : Nat) :
    rowCell [levels] [xs] r = (levelIndex levels (xs.getD r none)).map (fun g => [(levels.length, g)]) := by
  simp only [rowCell, List.zip_cons_cons, List.zip_nil_right, List.mapM_cons, List.mapM_nil]
  cases levelIndex levels (xs.getD r none) <;> rfl

/-- (levels, value in row `r`) of every grouping component -/
def qsAt (comps : List CompState) (cols : List (List (Option Level))) (r : Nat) :
    List (List Level × Option Level) :=
  List.zipWith (fun c xs => (c.levels, xs.getD r none)) comps cols

theorem rowCell_eq_cellOf (comps : List CompState) (cols : List (List (Option Level))) (r : Nat) :
    rowCell (comps.map (·.levels)) cols r = cellOf (qsAt comps cols r) := by
  induction comps generalizing cols with
  | nil => simp [rowCell, cellOf, qsAt]
  | cons c comps ih =>
    cases cols with
    | nil => simp [rowCell, cellOf, qsAt]
    | cons xs cols =>
      have := ih cols
      simp only [rowCell, cellOf, qsAt, List.map_cons, List.zip_cons_cons, List.zipWith_cons_cons,
        List.mapM_cons] at this ⊢
      rw [this]

theorem qsAt_lengths (comps : List CompState) (cols : List (List (Option Level))) (r : Nat)
    (h : comps.length = cols.length) :
    (qsAt comps cols r).map (·.1.length) = comps.map (·.levels.length) := by
  induction comps generalizing cols with
  | nil => simp [qsAt]
  | cons c comps ih =>
    cases cols with
    | nil => simp at h
    | cons xs cols =>
      simp only [List.length_cons, Nat.add_right_cancel_iff] at h
      have := ih cols h
      simp only [qsAt, List.zipWith_cons_cons, List.map_cons] at this ⊢
      rw [this]

def newFactorMatrix (comps : List CompState) (cols : List (List (Option Level))) : Matrix :=
  reduceMatrices (List.zipWith (fun c xs => xs.map (indRow c.levels)) comps cols)

theorem zipWith_rows_at (comps : List CompState) (cols : List (List (Option Level))) (r : Nat)
    (h : ∀ m ∈ List.zipWith (fun (c : CompState) (xs : List (Option Level)) => xs.map (indRow c.levels)) comps cols,
      r < m.length) :
    (List.zipWith (fun (c : CompState) (xs : List (Option Level)) => xs.map (indRow c.levels)) comps cols).map
        (fun m => m.getD r []) =
      (qsAt comps cols r).map (fun q => indRow q.1 q.2) := by
  induction comps generalizing cols with
  | nil => simp [qsAt]
  | cons c comps ih =>
    cases cols with
    | nil => simp [qsAt]
    | cons xs cols =>
      simp only [List.zipWith_cons_cons, List.mem_cons, forall_eq_or_imp, List.length_map] at h
      simp only [qsAt, List.zipWith_cons_cons, List.map_cons]
      rw [show List.zipWith (fun c xs => (c.levels, xs.getD r none)) comps cols = qsAt comps cols r from rfl,
        ← ih cols h.2]
      congr 1
      simp [List.getD_eq_getElem?_getD, List.getElem?_eq_getElem h.1]

theorem newFactorMatrix_row (comps : List CompState) (cols : List (List (Option Level))) (r : Nat)
    (hr : r < (newFactorMatrix comps cols).length) :
    (newFactorMatrix comps cols)[r] = newCellRow (qsAt comps cols r) := by
  unfold newFactorMatrix at hr ⊢
  rw [reduceMatrices_row _ r hr, zipWith_rows_at comps cols r (fun m hm => by
    have := reduceMatrices_length_le _ m hm
    omega)]
  exact foldl_rowProd_indRow _ 1 0 Nat.one_pos

theorem newFactorMatrix_row_cell (comps : List CompState) (cols : List (List (Option Level)))
    (hlen : comps.length = cols.length) (r : Nat) (hr : r < (newFactorMatrix comps cols).length) :
    (newFactorMatrix comps cols)[r] =
      match rowCell (comps.map (·.levels)) cols r with
      | some ps => unitE (cellCount 1 (comps.map (·.levels.length))) (cellIndex 0 ps)
      | none => zeroE (cellCount 1 (comps.map (·.levels.length))) := by
  rw [newFactorMatrix_row comps cols r hr, rowCell_eq_cellOf, newCellRow, qsAt_lengths comps cols r hlen]

theorem isZeroRow_newFactorMatrix (comps : List CompState) (cols : List (List (Option Level))) (r : Nat)
    (hr : r < (newFactorMatrix comps cols).length) :
    isZeroRow (newFactorMatrix comps cols)[r] = (rowCell (comps.map (·.levels)) cols r).isNone := by
  rw [newFactorMatrix_row comps cols r hr, isZeroRow_newCellRow, rowCell_eq_cellOf]

theorem rowCell_some_lt (comps : List CompState) (cols : List (List (Option Level)))
    (hlen : comps.length = cols.length) (r : Nat) (ps : List (Nat × Nat))
    (h : rowCell (comps.map (·.levels)) cols r = some ps) :
    (∀ p ∈ ps, p.2 < p.1) ∧ ps.map (·.1) = comps.map (·.levels.length) ∧
      cellIndex 0 ps < cellCount 1 (comps.map (·.levels.length)) := by
  rw [rowCell_eq_cellOf] at h
  obtain ⟨h1, h2⟩ := cellOf_some_lt _ ps h
  rw [qsAt_lengths comps cols r hlen] at h2
  exact ⟨h1, h2, h2 ▸ cellIndex_lt ps h1⟩

theorem newFactorMatrix_row_seen (comps : List CompState) (cols : List (List (Option Level)))
    (hlen : comps.length = cols.length) (r : Nat) (hr : r < (newFactorMatrix comps cols).length)
    (hnz : isZeroRow (newFactorMatrix comps cols)[r] = false) :
    ∃ ps, rowCell (comps.map (·.levels)) cols r = some ps ∧
      (∀ p ∈ ps, p.2 < p.1) ∧ ps.map (·.1) = comps.map (·.levels.length) ∧
      cellIndex 0 ps < cellCount 1 (comps.map (·.levels.length)) ∧
      (newFactorMatrix comps cols)[r] =
        unitE (cellCount 1 (comps.map (·.levels.length))) (cellIndex 0 ps) := by
  have hrow := newFactorMatrix_row_cell comps cols hlen r hr
  rw [isZeroRow_newFactorMatrix comps cols r hr] at hnz
  cases hps : rowCell (comps.map (·.levels)) cols r with
  | none => rw [hps] at hnz; cases hnz
  | some ps =>
    rw [hps] at hrow
    obtain ⟨h1, h2, h3⟩ := rowCell_some_lt comps cols hlen r ps hps
    exact ⟨ps, rfl, h1, h2, h3, hrow⟩

def anyUnseen (comps : List CompState) (cols : List (List (Option Level))) : Bool :=
  (comps.zip cols).any (fun p => p.2.any (isUnseen p.1.levels))

theorem anyUnseen_single (c : CompState) (xs : List (Option Level)) :
    anyUnseen [c] [xs] = xs.any (isUnseen c.levels) := by
  simp [anyUnseen]

/-- for several components of unequal lengths the matrix is cut to the shortest, and only
"zero row → unseen value" remains -/
theorem any_zero_single (c : CompState) (xs : List (Option Level)) :
    (newFactorMatrix [c] [xs]).any isZeroRow = anyUnseen [c] [xs] := by
  rw [anyUnseen_single, show newFactorMatrix [c] [xs] = xs.map (indRow c.levels) from rfl, List.any_map]
  congr 1
  funext x
  exact isZeroRow_indRow _ _

theorem newFactorMatrix_any_zero (comps : List CompState) (cols : List (List (Option Level))) :
    (newFactorMatrix comps cols).any isZeroRow = true ↔
      ∃ r, r < (newFactorMatrix comps cols).length ∧ rowCell (comps.map (·.levels)) cols r = none := by
  rw [List.any_eq_true]
  constructor
  · rintro ⟨row, hmem, hz⟩
    obtain ⟨r, hr, rfl⟩ := List.mem_iff_getElem.1 hmem
    rw [isZeroRow_newFactorMatrix comps cols r hr] at hz
    exact ⟨r, hr, by simpa using hz⟩
  · rintro ⟨r, hr, hnone⟩
    exact ⟨_, List.getElem_mem hr, by rw [isZeroRow_newFactorMatrix comps cols r hr, hnone]; rfl⟩

end FormulaeModel.Design
