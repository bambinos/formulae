import FormulaeModel.Model.World
import FormulaeModel.Proofs.Callees
/-
The transform state: the evaluator of call trees returns a state of the shape of the tree
(`shapeOf`, Model/World.lean), and on a state of that shape (prediction) it returns the state it was
given.  C07 rests on this, and so does C06 (`evalArg_frozen`).
-/
namespace FormulaeModel.World
open FormulaeModel.Design

theorem posOnly_ok {r : M ArgR} {v : Val} {st : TS} (h : posOnly r = .ok (v, st)) :
    ∃ k, r = .ok (k, v, st) :=
  ⟨none, (Design.posOnly_ok r v st).1 h⟩

/-- `center` leaves its state set (and as it was if it was set); every other callee returns it as it was -/
theorem finishCall_own (callee : String) (a : CallArgs) (own : Option Rat) (v : Val)
    (own' : Option Rat) (h : finishCall callee a own = .ok (v, own')) :
    (callee ≠ "center" → own' = own) ∧ (callee = "center" → own'.isSome) ∧
    (own.isSome → own' = own) := by
  cases CallOk.of_finishCall h with
  | center _ ho =>
    refine ⟨fun hc => absurd rfl hc, fun _ => rfl, fun hs => ?_⟩
    rcases ho with rfl | ⟨rfl, -⟩
    · rfl
    · cases hs
  | box hc => exact ⟨fun _ => rfl, fun h => (by subst h; cases hc), fun _ => rfl⟩
  | binary hc => exact ⟨fun _ => rfl, fun h => (by subst h; simp at hc), fun _ => rfl⟩
  | prop hc => exact ⟨fun _ => rfl, fun h => (by subst h; simp at hc), fun _ => rfl⟩
  | _ => exact ⟨fun _ => rfl, fun h => (by simp at h), fun _ => rfl⟩

theorem shapeOf_leaf {e : Expr} {s : String} (he : leafName e = some s) : shapeOf e .leaf = true := by
  cases e <;> first | rfl | cases he

theorem shapeOf_leafy {e : Expr} (he : (leafName e).isSome ∨ ∃ q, e = .literal q) :
    ∀ {t : TS}, shapeOf e t = true → t = .leaf
  | .leaf, _ => rfl
  | .node _ _, h => by
    rcases he with he | ⟨q, rfl⟩
    · cases e <;> first | cases h | cases he
    · cases h

theorem shapeOf_unary {op : Token} {r : Expr} :
    ∀ {t : TS}, shapeOf (.unary op r) t = true → ∃ s, t = .node none [s] ∧ shapeOf r s = true
  | .node none [s], h => ⟨s, rfl, h⟩
  | .leaf, h | .node (some _) _, h | .node none [], h | .node none (_ :: _ :: _), h => nomatch h

theorem shapeOf_brace {lb rb : Token} {e : Expr} :
    ∀ {t : TS}, shapeOf (.brace lb e rb) t = true → ∃ s, t = .node none [s] ∧ shapeOf e s = true
  | .node none [s], h => ⟨s, rfl, h⟩
  | .leaf, h | .node (some _) _, h | .node none [], h | .node none (_ :: _ :: _), h => nomatch h

theorem shapeOf_binary {op : Token} {l r : Expr} :
    ∀ {t : TS}, shapeOf (.binary l op r) t = true →
      ∃ a b, t = .node none [a, b] ∧ shapeOf l a = true ∧ shapeOf r b = true
  | .node none [a, b], h => ⟨a, b, rfl, (Bool.and_eq_true _ _ ▸ h : _ ∧ _)⟩
  | .leaf, h | .node (some _) _, h | .node none [], h | .node none [_], h
  | .node none (_ :: _ :: _ :: _), h => nomatch h

theorem shapeOf_call {n lp rp : Token} {as : Args} :
    ∀ {t : TS}, shapeOf (.call (.variable n) lp as rp) t = true →
      ∃ own cs, t = .node own cs ∧ (n.lexeme = "center" → own.isSome) ∧ shapesOf as cs = true
  | .node own cs, h => by
    have h' : ((n.lexeme != "center" || own.isSome) && shapesOf as cs) = true := h
    simp only [Bool.and_eq_true, Bool.or_eq_true, bne_iff_ne, ne_eq] at h'
    exact ⟨own, cs, rfl, fun hc => h'.1.resolve_left (fun hn => hn hc), h'.2⟩
  | .leaf, h => nomatch h

theorem shapesOf_nil : ∀ {cs : List TS}, shapesOf .nil cs = true → cs = []
  | [], _ => rfl
  | _ :: _, h => nomatch h

theorem shapesOf_last {e : Expr} :
    ∀ {cs : List TS}, shapesOf (.last e) cs = true → ∃ s, cs = [s] ∧ shapeOf e s = true
  | [s], h => ⟨s, rfl, h⟩
  | [], h | _ :: _ :: _, h => nomatch h

theorem shapesOf_more {e : Expr} {c : Token} {rest : Args} :
    ∀ {cs : List TS}, shapesOf (.more e c rest) cs = true →
      ∃ s cs', cs = s :: cs' ∧ shapeOf e s = true ∧ shapesOf rest cs' = true
  | s :: cs', h => ⟨s, cs', rfl, (Bool.and_eq_true _ _ ▸ h : _ ∧ _)⟩
  | [], h => nomatch h

theorem evalArg_shape_both (env : Env) :
    (∀ e ts k v t, evalArg env e ts = .ok (k, v, t) → shapeOf e t = true) ∧
    (∀ as ts i acc r sts, evalArgs env as ts i acc = .ok (r, sts) → shapesOf as sts = true) :=
  evalArg_induct env
    (grouping := fun _ _ _ _ _ _ _ ih => ih)
    (name := fun _ _ _ _ he _ => shapeOf_leaf he)
    (literal := fun _ _ _ _ => rfl)
    (unary := fun _ _ _ _ _ _ _ ih _ => ih)
    (binary := fun l _ r _ _ sa _ sb _ _ iha _ ihb _ =>
      show (shapeOf l sa && shapeOf r sb) = true by rw [iha, ihb]; rfl)
    (call := fun n _ as _ _ _ sts _ own _ ih h =>
      show ((n.lexeme != "center" || own.isSome) && shapesOf as sts) = true by
        rw [ih, Bool.and_true, Bool.or_eq_true, bne_iff_ne]
        exact (Decidable.em (n.lexeme = "center")).elim
          (fun hc => .inr ((finishCall_own _ _ _ _ _ h).2.1 hc)) .inl)
    (brace := fun _ _ _ _ _ _ _ ih => ih)
    (assign := fun _ _ _ _ _ _ _ ih => ih)
    (nil := fun _ _ _ => rfl)
    (last := fun _ _ _ _ _ _ _ _ ih => ih)
    (more := fun e _ rest _ _ _ _ _ st _ sts _ ih _ ihr =>
      show (shapeOf e st && shapesOf rest sts) = true by rw [ih, ihr]; rfl)

theorem evalArg_shape (env : Env) : ∀ (e : Expr) (ts : Option TS) (k : Option String) (v : Val)
    (t : TS), evalArg env e ts = .ok (k, v, t) → shapeOf e t = true :=
  (evalArg_shape_both env).1

theorem evalArgs_shape (env : Env) : ∀ (as : Args) (ts : Option TS) (i : Nat) (acc : CallArgs)
    (r : CallArgs) (sts : List TS), evalArgs env as ts i acc = .ok (r, sts) → shapesOf as sts = true :=
  (evalArg_shape_both env).2

theorem evalArg_pure_both (env : Env) :
    (∀ e ts k v t', evalArg env e ts = .ok (k, v, t') →
      ∀ t, ts = some t → shapeOf e t = true → t' = t) ∧
    (∀ as ts i acc r sts, evalArgs env as ts i acc = .ok (r, sts) →
      ∀ own cs, ts = some (.node own cs) → shapesOf as (cs.drop i) = true → sts = cs.drop i) := by
  refine evalArg_induct env
    (grouping := fun _ _ _ _ _ _ _ ih => ih)
    (name := fun _ _ _ _ he _ t _ hs => (shapeOf_leafy (.inl (he ▸ rfl)) hs).symm)
    (literal := fun q _ _ _ t _ hs => (shapeOf_leafy (.inr ⟨q, rfl⟩) hs).symm)
    (unary := ?_) (binary := ?_) (call := ?_) (brace := ?_)
    (assign := fun _ _ _ _ _ _ _ ih => ih)
    (nil := fun _ _ _ _ _ _ hs => (shapesOf_nil hs).symm)
    (last := ?_) (more := ?_)
  · rintro op r _ x st v - ih - t rfl hs
    obtain ⟨s, rfl, hs'⟩ := shapeOf_unary hs
    rw [ih s rfl hs']
  · rintro l op r _ a sa b sb v - iha - ihb - t rfl hs
    obtain ⟨a', b', rfl, ha, hb⟩ := shapeOf_binary hs
    rw [iha a' rfl ha, ihb b' rfl hb]
  · rintro n lp as rp _ args sts v own' - ih h t rfl hs
    obtain ⟨own, cs, rfl, hc, hcs⟩ := shapeOf_call hs
    have h2 := finishCall_own _ _ _ _ _ h
    have : own' = own := (Decidable.em (n.lexeme = "center")).elim (fun hcc => h2.2.2 (hc hcc)) h2.1
    rw [ih own cs rfl hcs, this]; rfl
  · rintro lb e rb _ v st - ih t rfl hs
    obtain ⟨s, rfl, hs'⟩ := shapeOf_brace hs
    rw [ih s rfl hs']
  · rintro e _ i acc k x st - ih own cs rfl hs
    obtain ⟨s, hd, hs'⟩ := shapesOf_last hs
    rw [hd, ih s (drop_cons cs i s [] hd).1 hs']
  · rintro e c rest _ i acc k x st a sts - ih - ihr own cs rfl hs
    obtain ⟨s, cs', hd, hs', hrest⟩ := shapesOf_more hs
    obtain ⟨h0, h1⟩ := drop_cons cs i s cs' hd
    rw [hd, ih s h0 hs', ihr own cs rfl (h1 ▸ hrest), h1]

theorem evalArg_pure (env : Env) : ∀ (e : Expr) (t : TS) (k : Option String) (v : Val) (t' : TS),
    shapeOf e t = true → evalArg env e (some t) = .ok (k, v, t') → t' = t :=
  fun e t k v t' hs h => (evalArg_pure_both env).1 e _ k v t' h t rfl hs

theorem evalArgs_pure (env : Env) : ∀ (as : Args) (own : Option Rat) (cs : List TS) (i : Nat)
    (acc : CallArgs) (r : CallArgs) (sts : List TS), shapesOf as (cs.drop i) = true →
    evalArgs env as (some (.node own cs)) i acc = .ok (r, sts) → sts = cs.drop i :=
  fun as own cs i acc r sts hs h => (evalArg_pure_both env).2 as _ i acc r sts h own cs rfl hs

end FormulaeModel.World
