import FormulaeModel.Proofs.LazyEval
/-
C12, names: grouping parentheses are transparent for `CallResolver` (any tables); the name part of
the induction of `LazyEval`.
-/
namespace FormulaeModel.Lazy
open FormulaeModel.Spec.C01 FormulaeModel.Spec.C12

theorem ungroup_of_assignName (c : Expr) (s : String) (h : assignName c = some s) :
    ungroup c = c := by
  cases c <;> first | rfl | cases h

section
variable (T : OpTable)

theorem ungroup_not_assign : ∀ (e : Expr) (t : Lazy), resolve T e = .ok t →
    isAssign (ungroup e) = false
  | .grouping _ e _, t, h => ungroup_not_assign e t h
  | .assign .., t, h => by cases h
  | .binary .., _, _ => rfl
  | .unary .., _, _ => rfl
  | .call .., _, _ => rfl
  | .brace .., _, _ => rfl
  | .variable _, _, _ => rfl
  | .subset .., _, _ => rfl
  | .quoted _, _, _ => rfl
  | .literal _, _, _ => rfl

mutual
/-- `visitGroupingExpr` is transparent: removing every grouping node does not change the lazy
tree (when the original resolves at all: `(f)(x)` and `f((k=2))` do not, `f(x)` and `f(k=2)` do) -/
theorem resolve_ungroup : ∀ (e : Expr) (t : Lazy), resolve T e = .ok t →
    resolve T (ungroup e) = .ok t
  | .grouping _ e _, t, h => resolve_ungroup e t h
  | .binary l op r, t, h => by
    simp only [ungroup, resolve] at h ⊢
    cases hf : lookup T.binary op.kind.name with
    | none => simp [hf] at h
    | some fn =>
      simp only [hf, bind_ok] at h ⊢
      obtain ⟨a, ha, b, hb, h⟩ := h
      exact ⟨a, resolve_ungroup l a ha, b, resolve_ungroup r b hb, h⟩
  | .unary op r, t, h => by
    simp only [ungroup, resolve] at h ⊢
    cases hf : lookup T.unary op.kind.name with
    | none => simp [hf] at h
    | some fn =>
      simp only [hf, bind_ok] at h ⊢
      obtain ⟨a, ha, h⟩ := h
      exact ⟨a, resolve_ungroup r a ha, h⟩
  | .call c lp as rp, t, h => by
    simp only [ungroup, resolve, bind_ok] at h ⊢
    obtain ⟨p, hp, h⟩ := h
    cases hc : assignName c with
    | none => simp [hc] at h
    | some callee =>
      rw [ungroup_of_assignName c callee hc]
      exact ⟨p, resolveArgs_ungroup as p hp, h⟩
  | .brace lb e rb, t, h => by
    cases hA : isAssign e with
    | true =>
      cases e <;> first | cases hA | skip
      rename_i n eq v
      simp only [ungroup, resolve, bind_ok] at h ⊢
      obtain ⟨a, ha, h⟩ := h
      cases hk : assignName n with
      | none => simp [hk] at h
      | some k =>
        rw [ungroup_of_assignName n k hk]
        exact ⟨a, resolve_ungroup v a ha, h⟩
    | false =>
      show resolve T (.brace lb (ungroup e) rb) = .ok t
      rw [resolve_brace_other T lb rb e hA, bind_ok] at h
      obtain ⟨a, ha, h⟩ := h
      rw [resolve_brace_other T lb rb _ (ungroup_not_assign T e a ha), bind_ok]
      exact ⟨a, resolve_ungroup e a ha, h⟩
  | .variable n, t, h => h
  | .subset .., t, h => h
  | .quoted _, t, h => h
  | .literal _, t, h => h
  | .assign .., t, h => by cases h
theorem resolveArgs_ungroup : ∀ (as : Args) (p : LazyArgs × LazyKw), resolveArgs T as = .ok p →
    resolveArgs T (ungroupArgs as) = .ok p
  | .nil, p, h => h
  | .last e, p, h => by
    cases hA : isAssign e with
    | true =>
      cases e <;> first | cases hA | skip
      rename_i n eq v
      simp only [ungroupArgs, ungroup, resolveArgs, bind_ok] at h ⊢
      obtain ⟨a, ha, h⟩ := h
      cases hk : assignName n with
      | none => simp [hk] at h
      | some k =>
        rw [ungroup_of_assignName n k hk]
        exact ⟨a, resolve_ungroup v a ha, h⟩
    | false =>
      show resolveArgs T (.last (ungroup e)) = .ok p
      rw [resolveArgs_last_other T e hA, bind_ok] at h
      obtain ⟨a, ha, h⟩ := h
      rw [resolveArgs_last_other T _ (ungroup_not_assign T e a ha), bind_ok]
      exact ⟨a, resolve_ungroup e a ha, h⟩
  | .more e c rest, p, h => by
    cases hA : isAssign e with
    | true =>
      cases e <;> first | cases hA | skip
      rename_i n eq v
      simp only [ungroupArgs, ungroup, resolveArgs, bind_ok] at h ⊢
      obtain ⟨a, ha, h⟩ := h
      cases hk : assignName n with
      | none => simp [hk] at h
      | some k =>
        rw [ungroup_of_assignName n k hk]
        simp only [hk, bind_ok] at h ⊢
        obtain ⟨r, hr, h⟩ := h
        exact ⟨a, resolve_ungroup v a ha, r, resolveArgs_ungroup rest r hr, h⟩
    | false =>
      show resolveArgs T (.more (ungroup e) c (ungroupArgs rest)) = .ok p
      rw [resolveArgs_more_other T e c rest hA] at h
      simp only [bind_ok] at h
      obtain ⟨a, ha, r, hr, h⟩ := h
      rw [resolveArgs_more_other T _ c _ (ungroup_not_assign T e a ha)]
      simp only [bind_ok]
      exact ⟨a, resolve_ungroup e a ha, r, resolveArgs_ungroup rest r hr, h⟩
end

end

theorem canon_resolve (e : Expr) (ha : alpha e = true) :
    ∃ t, resolve documentedOps e = .ok t ∧
      ∀ rest, canonGo false ((ungroup e).flat ++ rest) = t.str ++ canonGo true rest :=
  have ⟨t, h, _, hc⟩ := alpha_induction value_and_name_cases e ha
  ⟨t, h, hc⟩

theorem canon_resolveArgs : ∀ (as : Args) (kw : Bool), alphaArgs as kw = true →
    (kwNames as).Nodup →
    ∃ la lk, resolveArgs documentedOps as = .ok (la, lk) ∧ (kw = true → la = .nil) ∧
      lk.keys = kwNames as ∧ (as ≠ .nil → la.strs ++ lk.strs ≠ []) ∧
      ∀ rp rest, rp.kind = .RIGHT_PAREN →
        canonGo false ((ungroupArgs as).flat ++ rp :: rest)
          = joinWith ", " (la.strs ++ lk.strs) ++ (")" ++ canonGo true rest) :=
  fun as kw ha hn =>
    have ⟨la, lk, h1, h2, h3, _, h5, h6⟩ := alphaArgs_induction value_and_name_cases as kw ha hn
    ⟨la, lk, h1, h2, h3, h5, h6⟩

end FormulaeModel.Lazy
