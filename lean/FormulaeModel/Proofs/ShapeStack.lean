import FormulaeModel.Proofs.ShapeDesign
import FormulaeModel.Driver.C04
/-
Widths of stacked matrices (`hstack_width`, `stack_labels_width`) and the stacked containers
(`CommonEffectsMatrix`, `GroupEffectsMatrix`) built from what `designMatrices` returns.
-/
namespace FormulaeModel.Design

theorem hasWidth_ncols (m : Matrix) (w : Nat) (h : HasWidth m w) : HasWidth m m.ncols := by
  cases m with
  | nil => intro r hr; simp at hr
  | cons r0 m =>
    intro r hr
    rw [h r hr]
    simp [Matrix.ncols, h r0 (by simp)]

theorem hstack_width {γ : Type} (val : γ → Matrix) (wd : γ → Nat) (n : Nat) (os : List γ)
    (h : ∀ o ∈ os, HasWidth (val o) (wd o)) : HasWidth (hstack (os.map val) n) (os.map wd).sum := by
  induction os with
  | nil => intro r hr; rw [(List.mem_replicate.1 hr).2]; rfl
  | cons o os ih =>
    obtain ⟨ho, hos⟩ := List.forall_mem_cons.1 h
    intro r hr
    obtain ⟨a, ha, b, hb, rfl⟩ := hstack_mem _ _ _ _ hr
    simp only [List.map_cons, List.sum_cons, List.length_append, ho a ha, ih hos b hb]

theorem stack_labels_width (n : Nat) (parts : List (String × Matrix × Option (List String)))
    (h : ∀ p ∈ parts, ∀ ls, p.2.2 = some ls → HasWidth p.2.1 ls.length) (ls : List String)
    (hl : (stack n parts).labels = some ls) : ∀ r ∈ (stack n parts).matrix, r.length = ls.length := by
  simp only [stack, Option.map_eq_some_iff] at hl ⊢
  obtain ⟨lss, hlss, rfl⟩ := hl
  induction parts generalizing lss with
  | nil =>
    simp only [List.mapM_nil, Option.pure_def, Option.some.injEq] at hlss
    subst hlss
    intro r hr
    simp only [List.map_nil, hstack, List.mem_replicate] at hr
    simp [hr.2]
  | cons p parts ih =>
    rw [option_mapM_cons] at hlss
    obtain ⟨l, lss', hp, hps, rfl⟩ := hlss
    intro r hr
    simp only [List.map_cons] at hr
    obtain ⟨a, ha, b, hb, rfl⟩ := hstack_mem _ _ _ _ hr
    have h1 := h p (by simp) l hp a ha
    have h2 := ih (fun p' hp' => h p' (by simp [hp'])) lss' hps b hb
    simp [h1, h2]

end FormulaeModel.Design

namespace FormulaeModel.Pipeline
open FormulaeModel.Design

/-- what the observer of a design looks at (`Driver.C04.Trained`) -/
def Built.trained (b : Built) : Driver.C04.Trained := ⟨b.response, b.common, b.group⟩

/-- the blocks `CommonEffectsMatrix` stacks: the Intercept is a column of ones -/
def Built.commonParts (b : Built) : List (String × Matrix × Option (List String)) :=
  b.common.map (fun p =>
    match p.2 with
    | none => Driver.C04.interceptPart b.frame.nrows
    | some o => (p.1, o.data, o.labels))

/-- the blocks `GroupEffectsMatrix` stacks -/
def Built.groupParts (b : Built) : List (String × Matrix × Option (List String)) :=
  b.group.map (fun g => (g.st.name, g.data, g.labels))

theorem Built.commonStack_eq (b : Built) :
    Driver.C04.commonStack b.frame.nrows b.trained = stack b.frame.nrows b.commonParts := rfl

theorem Built.groupStack_eq (b : Built) :
    Driver.C04.groupStack b.frame.nrows b.trained = stack b.frame.nrows b.groupParts := rfl

theorem Built.commonParts_shape (b : Built) (hs : b.Shaped) :
    b.commonParts.map (·.1) = b.common.map (·.1) ∧
    ∀ p ∈ b.commonParts, p.2.1.length = b.frame.nrows ∧ (∃ w, HasWidth p.2.1 w) ∧
      ∀ ls, p.2.2 = some ls → HasWidth p.2.1 ls.length := by
  constructor
  · simp only [Built.commonParts, List.map_map]
    apply List.map_congr_left
    intro p hp
    simp only [Function.comp]
    cases hp2 : p.2 with
    | none => simp [Driver.C04.interceptPart, (hs.common p hp).1 hp2]
    | some o => rfl
  · intro q hq
    simp only [Built.commonParts, List.mem_map] at hq
    obtain ⟨p, hp, rfl⟩ := hq
    cases hp2 : p.2 with
    | none =>
      simp only [Driver.C04.interceptPart]
      refine ⟨by simp [onesCol], ⟨1, hasWidth_onesCol _⟩, ?_⟩
      intro ls hls
      cases hls
      exact hasWidth_onesCol _
    | some o =>
      obtain ⟨k, hk, ho⟩ := (hs.common p hp).2 o hp2
      exact ⟨ho.rows hk, ho.uniform, fun ls hls => (ho.cols ls hls).1⟩

theorem Built.groupParts_shape (b : Built) (hs : b.Shaped) (hne : b.termsNonempty = true) :
    b.groupParts.map (·.1) = b.group.map (·.st.name) ∧
    ∀ p ∈ b.groupParts, p.2.1.length = b.frame.nrows ∧ (∃ w, HasWidth p.2.1 w) ∧
      ∀ ls, p.2.2 = some ls → HasWidth p.2.1 ls.length := by
  constructor
  · simp [Built.groupParts, List.map_map, Function.comp_def]
  · intro q hq
    simp only [Built.groupParts, List.mem_map] at hq
    obtain ⟨g, hg, rfl⟩ := hq
    obtain ⟨ne, hgs⟩ := hs.group g hg
    simp only [Built.termsNonempty, Bool.and_eq_true, List.all_eq_true] at hne
    have hne' := hne.2 g hg
    rw [hgs.nonempty] at hne'
    exact ⟨hgs.rows hne', hgs.uniform, fun ls hls => (hgs.cols ls hls).1⟩

end FormulaeModel.Pipeline
