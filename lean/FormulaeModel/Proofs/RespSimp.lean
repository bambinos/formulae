import Lean.Meta.Tactic.Simp.RegisterCommand

/-- the response of what the term-algebra constructors build (a module of its own: an attribute
cannot be used in the module that declares it) -/
register_simp_attr resp
