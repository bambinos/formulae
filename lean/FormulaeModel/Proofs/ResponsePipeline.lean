import FormulaeModel.Proofs.PipelineStages
import FormulaeModel.Proofs.PermUnused
import FormulaeModel.Proofs.EncodingRun
/-
The common and group-specific parts of `Pipeline.designMatrices` are `predictors` of the resolved
right-hand side, the component table and the frame after the NA step: the response does not enter.
Two runs that agree on every component the right-hand side names give the same predictors.
-/
namespace FormulaeModel.Pipeline
open FormulaeModel.Design

def termNames : Terms.CTerm → List String
  | .term cs => cs.map Terms.Atom.name
  | _ => []

def predictorNames (common : List Terms.CTerm) (group : List Terms.GTerm) : List String :=
  common.flatMap termNames ++ group.flatMap (fun g => termNames g.expr ++ termNames g.factor)

/-- two runs *agree on the component* `n`: both component tables give it the same expression (or
both none), both frames give the same columns to the names that expression reads -/
def AgreeOn (env₁ env₂ : Env) (t₁ t₂ : List (String × Expr)) (n : String) : Prop :=
  compExpr t₁ n = compExpr t₂ n ∧
  ∀ e, compExpr t₁ n = .ok e → ∀ c ∈ compNames n e, env₁.frame.col? c = env₂.frame.col? c

section congr
variable (env₁ env₂ : Env) (t₁ t₂ : List (String × Expr))
variable (hnames : env₁.names = env₂.names) (hrows : env₁.frame.nrows = env₂.frame.nrows)
include hnames hrows

theorem compRun_congr (n : String) (forced isResponse full : Bool) (h : AgreeOn env₁ env₂ t₁ t₂ n) :
    (do trainComp env₁ n (← compExpr t₁ n) forced isResponse full) =
    (do trainComp env₂ n (← compExpr t₂ n) forced isResponse full) := by
  obtain ⟨h1, h2⟩ := h
  rw [← h1]
  cases hc : compExpr t₁ n with
  | error _ => rfl
  | ok e =>
    simp only [bind, Except.bind]
    obtain ⟨f1, n1⟩ := env₁
    obtain ⟨f2, n2⟩ := env₂
    simp only at hnames hrows
    subst hnames
    exact trainComp_agree f1 f2 n1 n e forced isResponse full hrows (h2 e hc)

theorem trainTerm_congr (spec : TermSpec) (forced isResponse : Bool)
    (h : ∀ c ∈ spec.comps, AgreeOn env₁ env₂ t₁ t₂ c.1) :
    trainTerm env₁ t₁ spec forced isResponse = trainTerm env₂ t₂ spec forced isResponse := by
  unfold trainTerm
  rw [mapM_congr_mem _ (fun (c : String × Bool) => do
    trainComp env₂ c.1 (← compExpr t₂ c.1) forced isResponse c.2)]
  intro c hc
  exact compRun_congr env₁ env₂ t₁ t₂ hnames hrows c.1 forced isResponse c.2 (h c hc)

theorem trainGroup_congr (spec : GroupSpec)
    (hf : ∀ c ∈ spec.factor.comps, AgreeOn env₁ env₂ t₁ t₂ c.1)
    (he : ∀ ts, spec.expr = some ts → ∀ c ∈ ts.comps, AgreeOn env₁ env₂ t₁ t₂ c.1) :
    trainGroup env₁ t₁ spec = trainGroup env₂ t₂ spec := by
  have h1 := trainTerm_congr env₁ env₂ t₁ t₂ hnames hrows
    { spec.factor with comps := spec.factor.comps.map (fun c => (c.1, true)) } true false (by
    intro c hc
    simp only [List.mem_map] at hc
    obtain ⟨c', hc', rfl⟩ := hc
    exact hf c' hc')
  unfold trainGroup
  cases hs : spec.expr with
  | none => simp only [hrows, h1]
  | some ts =>
    simp only [h1, trainTerm_congr env₁ env₂ t₁ t₂ hnames hrows ts false false (he ts hs)]

theorem compKind_congr (a : Terms.Atom) (h : AgreeOn env₁ env₂ t₁ t₂ a.name) :
    compKind env₁ t₁ a = compKind env₂ t₂ a := by
  have hr := compRun_congr env₁ env₂ t₁ t₂ hnames hrows a.name false false false h
  unfold compKind
  rw [← h.1]
  cases hc : compExpr t₁ a.name with
  | error _ => rfl
  | ok e =>
    rw [← h.1, hc] at hr
    simp only [bind, Except.bind] at hr
    simp only [bind, Except.bind, liftE, hr]

theorem termDesc_congr (t : Terms.CTerm) (h : ∀ n ∈ termNames t, AgreeOn env₁ env₂ t₁ t₂ n) :
    termDesc env₁ t₁ t = termDesc env₂ t₂ t := by
  cases t with
  | intercept => rfl
  | negIntercept => rfl
  | term cs =>
    cases cs with
    | nil => rfl
    | cons a as =>
      simp only [termDesc]
      rw [compKind_congr env₁ env₂ t₁ t₂ hnames hrows a (h _ (by simp [termNames]))]
      rw [mapM_congr_mem (compKind env₁ t₁) (compKind env₂ t₂) as (fun x hx =>
        compKind_congr env₁ env₂ t₁ t₂ hnames hrows x (h _ (by
          simp only [termNames, List.map_cons, List.mem_cons, List.mem_map]
          exact Or.inr ⟨x, hx, rfl⟩)))]

theorem descsOf_congr (common : List Terms.CTerm)
    (h : ∀ n ∈ common.flatMap termNames, AgreeOn env₁ env₂ t₁ t₂ n) :
    descsOf env₁ t₁ common = descsOf env₂ t₂ common := by
  unfold descsOf
  apply mapM_congr_mem
  intro t ht
  apply termDesc_congr env₁ env₂ t₁ t₂ hnames hrows
  intro n hn
  exact h n (List.mem_flatMap.mpr ⟨t, ht, hn⟩)

theorem evalCommon_congr (coded : List Encoding.CodedTerm)
    (h : ∀ ct ∈ coded, ∀ p ∈ ct.2, AgreeOn env₁ env₂ t₁ t₂ p.1.name) :
    evalCommon env₁ t₁ coded = evalCommon env₂ t₂ coded := by
  unfold evalCommon
  apply mapM_congr_mem
  intro ct hct
  rw [trainTerm_congr env₁ env₂ t₁ t₂ hnames hrows _ false false (by
    intro c hc
    simp only [List.mem_map] at hc
    obtain ⟨p, hp, rfl⟩ := hc
    exact h ct hct p hp)]

theorem groupOne_congr (all : List Terms.GTerm) (g : Terms.GTerm)
    (h : ∀ n ∈ termNames g.expr ++ termNames g.factor, AgreeOn env₁ env₂ t₁ t₂ n) :
    groupOne env₁ t₁ all g = groupOne env₂ t₂ all g := by
  unfold groupOne
  cases hf : specOf g.factor true with
  | none => rfl
  | some fs =>
    have hfs : ∀ c ∈ fs.comps, AgreeOn env₁ env₂ t₁ t₂ c.1 := by
      intro c hc
      cases hgf : g.factor with
      | term cs =>
        rw [hgf] at hf
        simp only [specOf, Option.some.injEq] at hf
        subst hf
        simp only [List.mem_map] at hc
        obtain ⟨a, ha, rfl⟩ := hc
        exact h _ (by simp only [hgf, termNames, List.mem_append, List.mem_map]; exact Or.inr ⟨a, ha, rfl⟩)
      | intercept => rw [hgf] at hf; simp [specOf] at hf
      | negIntercept => rw [hgf] at hf; simp [specOf] at hf
    cases hge : g.expr with
    | intercept =>
      simp only [bind, Except.bind, pure, Except.pure]
      rw [trainGroup_congr env₁ env₂ t₁ t₂ hnames hrows _ hfs (by intro ts hts; simp at hts)]
    | negIntercept => rfl
    | term cs =>
      simp only [bind, Except.bind, pure, Except.pure, specOf]
      rw [trainGroup_congr env₁ env₂ t₁ t₂ hnames hrows _ hfs (by
        intro ts hts c hc
        simp only [Option.some.injEq] at hts
        subst hts
        simp only [List.mem_map] at hc
        obtain ⟨a, ha, rfl⟩ := hc
        exact h _ (by simp only [hge, termNames, List.mem_append, List.mem_map]; exact Or.inl ⟨a, ha, rfl⟩))]

end congr

theorem compKind_name (env : Env) (table : List (String × Expr)) (a : Terms.Atom) (c : Encoding.Comp)
    (h : compKind env table a = .ok c) : c.name = a.name := by
  simp only [compKind, bind, Except.bind, pure, Except.pure] at h
  repeat' split at h
  all_goals first | (simp at h; done) | (simp only [Except.ok.injEq] at h; subst h; rfl)

theorem termDesc_names (env : Env) (table : List (String × Expr)) (t : Terms.CTerm) (d : Encoding.TermDesc)
    (h : termDesc env table t = .ok d) : ∀ c ∈ d.comps, c.name ∈ termNames t := by
  cases t with
  | intercept =>
    simp only [termDesc, pure, Except.pure, Except.ok.injEq] at h
    subst h; intro c hc; simp [Encoding.TermDesc.comps] at hc
  | negIntercept => simp [termDesc] at h
  | term cs =>
    cases cs with
    | nil => simp [termDesc] at h
    | cons a as =>
      simp only [termDesc, bind, Except.bind, pure, Except.pure] at h
      split at h
      · simp at h
      · rename_i c0 hc0
        split at h
        · simp at h
        · rename_i cs0 hcs0
          simp only [Except.ok.injEq] at h
          subst h
          intro c hc
          simp only [Encoding.TermDesc.comps, List.mem_cons] at hc
          simp only [termNames, List.map_cons, List.mem_cons, List.mem_map]
          rcases hc with hc | hc
          · subst hc; exact Or.inl (compKind_name env table a _ hc0)
          · obtain ⟨x, hx, hf⟩ := mapM_mem _ _ _ hcs0 c hc
            exact Or.inr ⟨x, hx, (compKind_name env table x c hf).symm⟩

theorem descsOf_names (env : Env) (table : List (String × Expr)) (common : List Terms.CTerm)
    (descs : List Encoding.TermDesc) (h : descsOf env table common = .ok descs) :
    Encoding.NamesIn (common.flatMap termNames) descs := by
  intro d hd c hc
  obtain ⟨t, ht, hf⟩ := mapM_mem _ _ _ h d hd
  exact List.mem_flatMap.mpr ⟨t, ht, termDesc_names env table t d hf c hc⟩

theorem dictByName_mem {α : Type} (name : α → String) (xs : List α) : ∀ x ∈ dictByName name xs, x ∈ xs := by
  unfold dictByName
  suffices h : ∀ (ys d : List α), (∀ x ∈ d, x ∈ xs) → (∀ y ∈ ys, y ∈ xs) →
      ∀ x ∈ ys.foldl (fun d x =>
        if d.any (fun y => name y == name x) then d.map (fun y => if name y == name x then x else y)
        else d ++ [x]) d, x ∈ xs from h xs [] (by simp) (fun y hy => hy)
  intro ys
  induction ys with
  | nil => intro d hd _ x hx; exact hd x hx
  | cons y ys ih =>
    intro d hd hy x hx
    simp only [List.foldl_cons] at hx
    refine ih _ ?_ (fun z hz => hy z (List.mem_cons_of_mem _ hz)) x hx
    intro z hz
    split at hz
    · simp only [List.mem_map] at hz
      obtain ⟨w, hw, rfl⟩ := hz
      split
      · exact hy y (by simp)
      · exact hd w hw
    · simp only [List.mem_append, List.mem_singleton] at hz
      rcases hz with hz | hz
      · exact hd z hz
      · subst hz; exact hy z (by simp)

theorem codedOf_names (names : List String) (descs : List Encoding.TermDesc)
    (coded : List Encoding.CodedTerm) (hn : Encoding.NamesIn names descs) (h : codedOf descs = .ok coded) :
    ∀ ct ∈ coded, ∀ p ∈ ct.2, p.1.name ∈ names := by
  unfold codedOf at h
  cases hrun : Encoding.run true descs with
  | error _ => rw [hrun] at h; cases h
  | ok c =>
    rw [hrun] at h; cases h
    exact Encoding.run_names _ true descs c hn hrun

section congr
variable (env₁ env₂ : Env) (t₁ t₂ : List (String × Expr))
variable (hnames : env₁.names = env₂.names) (hrows : env₁.frame.nrows = env₂.frame.nrows)
include hnames hrows

theorem commonPart_congr (common : List Terms.CTerm)
    (h : ∀ n ∈ common.flatMap termNames, AgreeOn env₁ env₂ t₁ t₂ n) :
    commonPart env₁ t₁ common = commonPart env₂ t₂ common := by
  unfold commonPart
  rw [descsOf_congr env₁ env₂ t₁ t₂ hnames hrows common h]
  refine bind_congr_ok fun descs hds => bind_congr_ok fun coded hcd => ?_
  exact evalCommon_congr env₁ env₂ t₁ t₂ hnames hrows coded fun ct hct p hp =>
    h _ (codedOf_names _ descs coded (descsOf_names env₂ t₂ common descs hds) hcd ct hct p hp)

theorem groupPart_congr (group : List Terms.GTerm)
    (h : ∀ n ∈ group.flatMap (fun g => termNames g.expr ++ termNames g.factor), AgreeOn env₁ env₂ t₁ t₂ n) :
    groupPart env₁ t₁ group = groupPart env₂ t₂ group :=
  mapM_congr_mem _ _ _ fun g hg =>
    groupOne_congr env₁ env₂ t₁ t₂ hnames hrows group g fun n hn =>
      h n (List.mem_flatMap.mpr ⟨g, dictByName_mem gName group g hg, hn⟩)

end congr

/-- **the predictors read only the components of the right-hand side**: two runs (other tables,
other frames) that agree on each of them give the same predictors, errors included -/
theorem predictors_congr (env₁ env₂ : Env) (t₁ t₂ : List (String × Expr))
    (common : List Terms.CTerm) (group : List Terms.GTerm)
    (hnames : env₁.names = env₂.names) (hrows : env₁.frame.nrows = env₂.frame.nrows)
    (h : ∀ n ∈ predictorNames common group, AgreeOn env₁ env₂ t₁ t₂ n) :
    predictors common group t₁ env₁ = predictors common group t₂ env₂ := by
  unfold predictors
  rw [commonPart_congr env₁ env₂ t₁ t₂ hnames hrows common fun n hn => h n (List.mem_append_left _ hn),
    groupPart_congr env₁ env₂ t₁ t₂ hnames hrows group fun n hn => h n (List.mem_append_right _ hn)]

theorem naStep_complete (actions : List String) (action : String) (used : List String) (f f' : Frame)
    (hc : (NA.incompleteRows f.nrows (NA.selectCols used f)).any id = false)
    (h : NA.naStep actions action used f = .ok f') : f' = NA.selectCols used f := by
  unfold NA.naStep at h
  refine of_ite_eq h nofun fun h => of_ite_eq h nofun fun h => ?_
  rw [if_neg (by simp only [hc]; decide)] at h
  exact (Except.ok.inj h).symm

theorem col?_selectCols (used : List String) (f : Frame) (n : String) :
    (NA.selectCols used f).col? n = if used.contains n then f.col? n else none := by
  unfold NA.selectCols Frame.col?
  induction f with
  | nil => simp
  | cons c cs ih =>
    simp only [List.filter_cons]
    by_cases hcn : (c.name == n) = true
    · have hcn' : c.name = n := by simpa using hcn
      by_cases hu : used.contains c.name = true
      · subst hcn'
        have hu2 : c.name ∈ used := by simpa using hu
        simp [hu2]
      · have hu' : used.contains n = false := by rw [← hcn']; simpa using hu
        simp only [hu, Bool.false_eq_true, if_false, ih, hu']
    · by_cases hu : used.contains c.name = true
      · simp only [hu, if_true, List.find?_cons, hcn, ih]
      · simp only [hu, Bool.false_eq_true, if_false, ih, List.find?_cons, hcn]

theorem compExpr_append_fresh (A R : List (String × Expr)) (n : String)
    (h : ∀ p ∈ A, p.1 ≠ n) : compExpr (A ++ R) n = compExpr R n := by
  unfold compExpr
  have : (A ++ R).find? (·.1 == n) = R.find? (·.1 == n) := by
    rw [List.find?_append]
    have : A.find? (·.1 == n) = none := by
      rw [List.find?_eq_none]
      intro p hp
      simpa using h p hp
    rw [this]; rfl
  rw [this]

/-- **same data, no missing values, two responses**: agreement on every right-hand-side component -/
theorem agreeOn_same_data (f : Frame) (names : List (String × Val)) (y₁ y₂ rhs : Expr) (op₁ op₂ : Token)
    (common : List Terms.CTerm) (group : List Terms.GTerm)
    (hfresh : ∀ p ∈ atomTable y₁ ++ atomTable y₂, p.1 ∉ predictorNames common group)
    (hshape : ∀ p ∈ atomTable rhs, p.1 ∈ predictorNames common group → isAtomShape p.2 = true) :
    ∀ n ∈ predictorNames common group,
      AgreeOn ⟨NA.selectCols (usedCols (.binary y₁ op₁ rhs) f) f, names⟩
        ⟨NA.selectCols (usedCols (.binary y₂ op₂ rhs) f) f, names⟩
        (atomTable (.binary y₁ op₁ rhs)) (atomTable (.binary y₂ op₂ rhs)) n := by
  intro n hn
  have h1 : compExpr (atomTable (.binary y₁ op₁ rhs)) n = compExpr (atomTable rhs) n := by
    simp only [atomTable]
    exact compExpr_append_fresh _ _ n (fun p hp he => hfresh p (by simp [hp]) (he ▸ hn))
  have h2 : compExpr (atomTable (.binary y₂ op₂ rhs)) n = compExpr (atomTable rhs) n := by
    simp only [atomTable]
    exact compExpr_append_fresh _ _ n (fun p hp he => hfresh p (by simp [hp]) (he ▸ hn))
  refine ⟨h1.trans h2.symm, ?_⟩
  intro e he c hc
  rw [h1] at he
  have hmem := compExpr_mem _ _ _ he
  have hv : c ∈ NA.formulaVars rhs :=
    atomTable_names rhs (n, e) hmem (hshape (n, e) hmem hn) c hc
  simp only [col?_selectCols, usedCols, NA.formulaVars]
  cases hcol : f.col? c with
  | none => simp
  | some col =>
    have hmemf : col ∈ f := by
      unfold Frame.col? at hcol
      exact List.mem_of_find?_eq_some hcol
    have hname : col.name = c := by
      unfold Frame.col? at hcol
      simpa using List.find?_some hcol
    have hex : ∃ a, a ∈ f ∧ a.name = c := ⟨col, hmemf, hname⟩
    simp [hv, hex]

end FormulaeModel.Pipeline
