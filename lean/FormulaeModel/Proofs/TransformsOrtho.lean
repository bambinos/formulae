import FormulaeModel.Proofs.TransformsBasic
/-
The three-term recurrence produces mutually orthogonal polynomials
(w.r.t. the discrete inner product on the data), orthogonal to the constant.
-/
namespace FormulaeModel.Transforms.Ortho
open FormulaeModel.Transforms

theorem ip_comm (x : List Rat) (f g : Rat → Rat) : ip x f g = ip x g f := by
  unfold ip; congr 1; apply List.map_congr_left; intro v _; ring

theorem ip_add_left (x : List Rat) (f g h : Rat → Rat) :
    ip x (fun v => f v + g v) h = ip x f h + ip x g h := by
  unfold ip
  rw [← sum_map_add]; congr 1; apply List.map_congr_left; intro v _; ring

theorem ip_smul_left (x : List Rat) (c : Rat) (f h : Rat → Rat) :
    ip x (fun v => c * f v) h = c * ip x f h := by
  unfold ip
  rw [← sum_map_mul_left]; congr 1; apply List.map_congr_left; intro v _; ring

theorem ip_zero_left (x : List Rat) (h : Rat → Rat) : ip x (fun _ => 0) h = 0 := by
  unfold ip
  have : x.map (fun v => (0 : Rat) * h v) = x.map (fun _ => (0 : Rat)) :=
    List.map_congr_left (fun v _ => by ring)
  rw [this, sum_map_const]; ring

theorem ip_mulx (x : List Rat) (f g : Rat → Rat) :
    ip x (fun v => v * f v) g = ip x f (fun v => v * g v) := by
  unfold ip; congr 1; apply List.map_congr_left; intro v _; ring

theorem ip_congr_left (x : List Rat) (f g h : Rat → Rat) (hfg : ∀ v, f v = g v) :
    ip x f h = ip x g h := by
  have : f = g := funext hfg
  rw [this]

/-- `q k = P_{k-1}` (`0` for `k = 0`) and `b k = norms2[k]/norms2[k-1]` (`0` for `k = 0`) -/
def q (x : List Rat) (k : Nat) : Rat → Rat := (pp x k).2
def b (x : List Rat) (k : Nat) : Rat := if k = 0 then 0 else norm2 x k / ip x (q x k) (q x k)

theorem q_zero (x : List Rat) : q x 0 = fun _ => 0 := rfl
theorem q_succ (x : List Rat) (k : Nat) : q x (k + 1) = p x k := rfl
theorem p_zero (x : List Rat) : p x 0 = fun _ => 1 := rfl

/-- the recurrence in uniform shape -/
theorem p_succ (x : List Rat) (k : Nat) (v : Rat) :
    p x (k + 1) v = (v - alpha x k) * p x k v - b x k * q x k v := rfl

theorem b_succ (x : List Rat) (k : Nat) : b x (k + 1) = norm2 x (k + 1) / norm2 x k := by
  simp [b, q_succ, norm2]

theorem b_zero (x : List Rat) : b x 0 = 0 := rfl

/-- the form of the recurrence in the Python code, for `i ≥ 2` -/
theorem p_succ_succ (x : List Rat) (k : Nat) (v : Rat) :
    p x (k + 2) v = (v - alpha x (k + 1)) * p x (k + 1) v
                    - (norm2 x (k + 1) / norm2 x k) * p x k v := by
  rw [p_succ, b_succ, q_succ]

theorem mulx_p (x : List Rat) (k : Nat) (v : Rat) :
    v * p x k v = p x (k + 1) v + alpha x k * p x k v + b x k * q x k v := by
  rw [p_succ]; ring

theorem alpha_mul_norm (x : List Rat) (k : Nat) (h : norm2 x k ≠ 0) :
    alpha x k * norm2 x k = ip x (fun v => v * p x k v) (p x k) := by
  exact div_mul_cancel₀ _ h

theorem ip_p_succ (x : List Rat) (k : Nat) (g : Rat → Rat) :
    ip x (p x (k + 1)) g
      = ip x (fun v => v * p x k v) g - alpha x k * ip x (p x k) g - b x k * ip x (q x k) g := by
  have h1 : ip x (p x (k + 1)) g
      = ip x (fun v => (v * p x k v + (-(alpha x k)) * p x k v) + (-(b x k)) * q x k v) g := by
    apply ip_congr_left; intro v; rw [p_succ]; ring
  rw [h1, ip_add_left, ip_add_left, ip_smul_left, ip_smul_left]
  ring

theorem ip_mulx_p (x : List Rat) (j : Nat) (f : Rat → Rat) :
    ip x f (fun v => v * p x j v)
      = ip x f (p x (j + 1)) + alpha x j * ip x f (p x j) + b x j * ip x f (q x j) := by
  rw [ip_comm x f, ip_comm x f, ip_comm x f, ip_comm x f]
  have h1 : ip x (fun v => v * p x j v) f
      = ip x (fun v => (p x (j + 1) v + alpha x j * p x j v) + b x j * q x j v) f := by
    apply ip_congr_left; intro v; rw [mulx_p]
  rw [h1, ip_add_left, ip_add_left, ip_smul_left, ip_smul_left]

/-- The classical argument, by strong induction on `k`: expand `P_{k+1}` by the recurrence
(`ip_p_succ`), move the factor `x` to the other argument (`ip_mulx`) and expand `x · P_j` by the
recurrence again (`ip_mulx_p`); by the induction hypothesis only `j = k`, which `alpha k` is defined to
cancel, and `j + 1 = k`, which `b k` is defined to cancel, survive. -/
theorem orthogonal (x : List Rat) (D : Nat) (hN : ∀ j < D, norm2 x j ≠ 0) :
    ∀ k ≤ D, ∀ j < k, ip x (p x k) (p x j) = 0 := by
  intro k
  induction k using Nat.strong_induction_on with
  | _ k IH =>
    intro hkD j hjk
    cases k with
    | zero => omega
    | succ k =>
      have Sk : ∀ j < k, ip x (p x k) (p x j) = 0 := IH k (by omega) (by omega)
      rw [ip_p_succ]
      -- the term `b_k ⟨q_k, P_j⟩`
      have hq : b x k * ip x (q x k) (p x j)
          = if j + 1 = k then norm2 x k else 0 := by
        cases k with
        | zero => simp [b_zero]
        | succ k' =>
          rw [q_succ, b_succ]
          by_cases hj : j = k'
          · subst hj
            have := hN j (by omega)
            simp only [if_true]
            exact div_mul_cancel₀ _ this
          · have : ip x (p x k') (p x j) = 0 := by
              by_cases hlt : j < k'
              · exact IH k' (by omega) (by omega) j hlt
              · have hjk1 : j = k' + 1 := by omega
                rw [ip_comm, hjk1]; exact Sk k' (by omega)
            rw [this, if_neg (by omega)]; ring
      by_cases hj : j = k
      · subst hj
        rw [hq, if_neg (by omega)]
        have := alpha_mul_norm x j (hN j (by omega))
        unfold norm2 at this
        rw [← this]; ring
      · have hjk' : j < k := by omega
        rw [hq, Sk j hjk', ip_mulx, ip_mulx_p]
        rw [Sk j hjk']
        -- ⟨P_k, q_j⟩ = 0
        have hq2 : b x j * ip x (p x k) (q x j) = 0 := by
          cases j with
          | zero => simp [b_zero]
          | succ j' => rw [q_succ, Sk j' (by omega)]; ring
        rw [hq2]
        by_cases hj1 : j + 1 = k
        · rw [if_pos hj1]; subst hj1; unfold norm2; ring
        · rw [if_neg hj1, Sk (j + 1) (by omega)]; ring

theorem orthogonal_const (x : List Rat) (D : Nat) (hN : ∀ j < D, norm2 x j ≠ 0)
    (k : Nat) (hk : k ≤ D) (hk1 : 1 ≤ k) : sum (x.map (p x k)) = 0 := by
  have := orthogonal x D hN k hk 0 (by omega)
  unfold ip at this
  rw [p_zero] at this
  simpa using this

end FormulaeModel.Transforms.Ortho
