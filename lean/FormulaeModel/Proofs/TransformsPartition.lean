import FormulaeModel.Proofs.TransformsBasic
/-
The Cox–de Boor basis functions of a sorted knot vector, started from a non-empty knot interval
`[t_l, t_{l+1}]`, are non-negative on that interval and sum to one (everywhere): induction on the
degree.  `splev`'s interval search; the theorem on one row of `bs`.
-/
namespace FormulaeModel.Transforms

/-- `Σ_{i<n} f (a+i)` -/
def rsum (f : Nat → Rat) (a n : Nat) : Rat := sum (rowAux f a n)

theorem rsum_zero_len (f : Nat → Rat) (a : Nat) : rsum f a 0 = 0 := rfl
theorem rsum_succ (f : Nat → Rat) (a n : Nat) : rsum f a (n + 1) = f a + rsum f (a + 1) n := rfl

theorem rsum_last (f : Nat → Rat) (a n : Nat) : rsum f a (n + 1) = rsum f a n + f (a + n) := by
  induction n generalizing a with
  | zero => simp [rsum_succ, rsum_zero_len]
  | succ n ih =>
    rw [rsum_succ, ih (a + 1), rsum_succ]
    have : a + 1 + n = a + (n + 1) := by omega
    rw [this]; ring

theorem rsum_add (f g : Nat → Rat) (a n : Nat) :
    rsum (fun i => f i + g i) a n = rsum f a n + rsum g a n := by
  induction n generalizing a with
  | zero => simp [rsum_zero_len]
  | succ n ih => simp only [rsum_succ, ih]; ring

theorem rsum_congr (f g : Nat → Rat) (a n : Nat) (h : ∀ i, a ≤ i → i < a + n → f i = g i) :
    rsum f a n = rsum g a n := by
  induction n generalizing a with
  | zero => rfl
  | succ n ih =>
    rw [rsum_succ, rsum_succ, h a (le_refl _) (by omega)]
    rw [ih (a + 1) (fun i h1 h2 => h i (by omega) (by omega))]

theorem rsum_shift (f : Nat → Rat) (a n : Nat) :
    rsum (fun i => f (i + 1)) a n = rsum f (a + 1) n := by
  induction n generalizing a with
  | zero => rfl
  | succ n ih => rw [rsum_succ, rsum_succ, ih]

theorem rsum_eq_zero (f : Nat → Rat) (a n : Nat) (h : ∀ i, a ≤ i → i < a + n → f i = 0) :
    rsum f a n = 0 := by
  induction n generalizing a with
  | zero => rfl
  | succ n ih =>
    rw [rsum_succ, h a (le_refl _) (by omega), ih (a + 1) (fun i h1 h2 => h i (by omega) (by omega))]
    ring

theorem rsum_split (f : Nat → Rat) (a m k : Nat) :
    rsum f a (m + k) = rsum f a m + rsum f (a + m) k := by
  induction m generalizing a with
  | zero => simp [rsum_zero_len]
  | succ m ih =>
    have : m + 1 + k = (m + k) + 1 := by omega
    rw [this, rsum_succ, rsum_succ, ih (a + 1)]
    have : a + 1 + m = a + (m + 1) := by omega
    rw [this]; ring

theorem ratio_nonneg {a b : Rat} (ha : 0 ≤ a) (hb : 0 ≤ b) : 0 ≤ ratio a b := by
  unfold ratio; split
  · exact le_refl _
  · exact div_nonneg ha hb

theorem ratio_add_ratio {a b c : Rat} (hc : c ≠ 0) (h : a + b = c) : ratio a c + ratio b c = 1 := by
  unfold ratio; rw [if_neg hc, if_neg hc, ← add_div, h, div_self hc]

theorem basis_eq_zero (t : List Rat) (l : Nat) (x : Rat) :
    ∀ d j, ¬ (j ≤ l ∧ l ≤ j + d) → basis t l d j x = 0 := by
  intro d
  induction d with
  | zero => intro j h; exact if_neg fun e => h (by subst e; exact ⟨le_refl _, le_refl _⟩)
  | succ d ih =>
    intro j h
    rw [basis, ih j fun ⟨h1, h2⟩ => h ⟨h1, Nat.le_succ_of_le h2⟩,
      ih (j + 1) fun ⟨h1, h2⟩ => h ⟨Nat.le_of_succ_le h1, Nat.add_right_comm j 1 d ▸ h2⟩,
      mul_zero, mul_zero, add_zero]

/-- sortedness of the knot vector, as a statement about `tk` -/
def Mono (t : List Rat) : Prop := ∀ i j, i ≤ j → j < t.length → tk t i ≤ tk t j

theorem Mono.window {t : List Rat} (hm : Mono t) {l j d : Nat} (hj : j ≤ l) (hl : l ≤ j + d)
    (hlen : j + d + 1 < t.length) : tk t j ≤ tk t l ∧ tk t (l + 1) ≤ tk t (j + d + 1) :=
  ⟨hm j l hj (lt_of_le_of_lt hl (Nat.lt_of_succ_lt hlen)), hm _ _ (Nat.succ_le_succ hl) hlen⟩

theorem basis_nonneg (t : List Rat) (hm : Mono t) (l : Nat) (x : Rat)
    (h1 : tk t l ≤ x) (h2 : x ≤ tk t (l + 1)) :
    ∀ d, l + d + 1 < t.length → ∀ j, 0 ≤ basis t l d j x := by
  intro d
  induction d with
  | zero =>
    intro _ j; rw [basis]; split
    · exact zero_le_one
    · exact le_refl _
  | succ d ih =>
    intro hl j
    have ih' := ih (Nat.lt_of_succ_lt hl)
    rw [basis]
    -- outside its support window a term vanishes; inside, both factors are non-negative
    refine add_nonneg ?_ ?_
    · by_cases hs : j ≤ l ∧ l ≤ j + d
      · obtain ⟨w1, w2⟩ := hm.window hs.1 hs.2 (by omega)
        exact mul_nonneg (ratio_nonneg (sub_nonneg.mpr (w1.trans h1))
          (sub_nonneg.mpr (w1.trans (h1.trans (h2.trans w2))))) (ih' j)
      · rw [basis_eq_zero t l x d j hs, mul_zero]
    · by_cases hs : j + 1 ≤ l ∧ l ≤ j + 1 + d
      · obtain ⟨w1, w2⟩ := hm.window hs.1 hs.2 (by omega)
        rw [Nat.add_right_comm j 1 d] at w2
        exact mul_nonneg (ratio_nonneg (sub_nonneg.mpr (h2.trans w2))
          (sub_nonneg.mpr (w1.trans (h1.trans (h2.trans w2))))) (ih' (j + 1))
      · rw [basis_eq_zero t l x d (j + 1) hs, mul_zero]

/-- partition of unity on the support window `[l-d, l]` -/
theorem basis_window_sum (t : List Rat) (hm : Mono t) (l : Nat) (x : Rat)
    (hlt : tk t l < tk t (l + 1)) :
    ∀ d a, a + d = l → l + d + 1 < t.length → rsum (fun j => basis t l d j x) a (d + 1) = 1 := by
  intro d
  induction d with
  | zero =>
    intro a ha _
    cases ha
    rw [rsum_succ, rsum_zero_len, add_zero]
    exact if_pos rfl
  | succ d ih =>
    intro a ha hl
    have ih' := ih (a + 1) ((Nat.add_right_comm a 1 d).trans ha) (Nat.lt_of_succ_lt hl)
    let A : Nat → Rat := fun j => ratio (x - tk t j) (tk t (j + d + 1) - tk t j)
    let C : Nat → Rat := fun j => ratio (tk t (j + d + 1) - x) (tk t (j + d + 1) - tk t j)
    have hB : ∀ j, basis t l (d + 1) j x
        = A j * basis t l d j x + C (j + 1) * basis t l d (j + 1) x := by
      intro j
      simp only [basis, A, C, Nat.add_right_comm j 1 d]
    rw [rsum_congr _ (fun j => A j * basis t l d j x + C (j + 1) * basis t l d (j + 1) x) _ _
      (fun j _ _ => hB j)]
    rw [rsum_add]
    -- first sum: the leading term vanishes
    rw [rsum_succ (fun j => A j * basis t l d j x) a (d + 1)]
    rw [basis_eq_zero t l x d a fun h => Nat.not_succ_le_self _ (ha.trans_le h.2)]
    -- second sum: shift the index, the trailing term vanishes
    rw [rsum_shift (fun j => C j * basis t l d j x) a (d + 2)]
    rw [rsum_last (fun j => C j * basis t l d j x) (a + 1) (d + 1)]
    rw [basis_eq_zero t l x d (a + 1 + (d + 1)) fun h => by omega]
    rw [mul_zero, mul_zero, zero_add, add_zero, ← rsum_add]
    rw [← ih']
    apply rsum_congr
    intro j hj1 hj2
    obtain ⟨w1, w2⟩ := hm.window (l := l) (j := j) (d := d) (by omega) (by omega) (by omega)
    have hne : tk t (j + d + 1) - tk t j ≠ 0 :=
      ne_of_gt (sub_pos.mpr (lt_of_le_of_lt w1 (lt_of_lt_of_le hlt w2)))
    have : A j + C j = 1 := ratio_add_ratio hne (by ring)
    rw [← add_mul, this, one_mul]

theorem basis_row_sum (t : List Rat) (hm : Mono t) (l : Nat) (x : Rat)
    (hlt : tk t l < tk t (l + 1)) (d n : Nat) (hd : d ≤ l) (hn : l < n)
    (hlen : l + d + 1 < t.length) :
    rsum (fun j => basis t l d j x) 0 n = 1 := by
  obtain ⟨a, rfl⟩ := Nat.exists_eq_add_of_le' hd
  obtain ⟨r, rfl⟩ : ∃ r, n = a + (d + 1) + r := ⟨n - (a + d + 1), by omega⟩
  rw [rsum_split, rsum_split]
  rw [rsum_eq_zero _ 0 a (fun j _ h => basis_eq_zero t (a + d) x d j fun _ => by omega)]
  rw [rsum_eq_zero _ (0 + (a + (d + 1))) r (fun j h _ => basis_eq_zero t (a + d) x d j fun _ => by omega)]
  rw [Nat.zero_add, basis_window_sum t hm (a + d) x hlt d a rfl hlen]
  ring

theorem intervalFrom_spec (t : List Rat) (x : Rat) (hi : Nat) :
    ∀ fuel l0, l0 ≤ hi →
      l0 ≤ intervalFrom t x hi fuel l0 ∧
      intervalFrom t x hi fuel l0 ≤ hi ∧
      (intervalFrom t x hi fuel l0 = l0 ∨ tk t (intervalFrom t x hi fuel l0) ≤ x) ∧
      (hi ≤ l0 + fuel →
        (intervalFrom t x hi fuel l0 = hi ∨ x < tk t (intervalFrom t x hi fuel l0 + 1))) := by
  intro fuel
  induction fuel with
  | zero => intro l0 h; exact ⟨le_refl _, h, Or.inl rfl, fun hf => Or.inl (le_antisymm h hf)⟩
  | succ f ih =>
    intro l0 h
    rw [intervalFrom]
    split
    · rename_i hc
      obtain ⟨h1, h2, h3, h4⟩ := ih (l0 + 1) hc.1
      exact ⟨Nat.le_of_succ_le h1, h2, Or.inr (h3.elim (fun e => by rw [e]; exact hc.2) id),
        fun hf => h4 (by omega)⟩
    · rename_i hc
      refine ⟨le_refl _, h, Or.inl rfl, fun _ => ?_⟩
      by_cases hl : l0 < hi
      · exact Or.inr (not_le.mp fun h => hc ⟨hl, h⟩)
      · exact Or.inl (le_antisymm h (not_lt.mp hl))

theorem interval_bracket (t : List Rat) (k : Nat) (x : Rat) (hlen : 2 * (k + 1) ≤ t.length)
    (hlo : tk t k ≤ x) :
    k ≤ interval t k x ∧ interval t k x + k + 2 ≤ t.length ∧ tk t (interval t k x) ≤ x ∧
    (x < tk t (interval t k x + 1) ∨ interval t k x + 1 = t.length - k - 1) := by
  obtain ⟨m, hn⟩ := Nat.exists_eq_add_of_le' (show k + 2 ≤ t.length by omega)
  have hm : t.length - k - 2 = m := by rw [Nat.sub_sub, hn, Nat.add_sub_cancel]
  have hlast : t.length - k - 1 = m + 1 := by
    rw [Nat.sub_sub, hn, show m + (k + 2) = m + 1 + (k + 1) by omega, Nat.add_sub_cancel]
  unfold interval
  rw [hm, hlast]
  have h := intervalFrom_spec t x m t.length k (by omega)
  generalize intervalFrom t x m t.length k = l at h
  obtain ⟨h1, h2, h3, h4⟩ := h
  refine ⟨h1, by omega, h3.elim (fun e => ?_) id, (h4 (by omega)).elim (fun e => Or.inr ?_) Or.inl⟩
  · rw [e]; exact hlo
  · rw [e]

theorem bsDegenerate_eq_false {t : List Rat} {k : Nat} {x : Rat} :
    bsDegenerate t k x = false ↔ tk t (interval t k x) ≠ tk t (interval t k x + 1) :=
  beq_eq_false_iff_ne

theorem mem_rowAux (f : Nat → Rat) (a n : Nat) (v : Rat) (h : v ∈ rowAux f a n) :
    ∃ j, a ≤ j ∧ j < a + n ∧ v = f j := by
  induction n generalizing a with
  | zero => simp [rowAux] at h
  | succ n ih =>
    simp only [rowAux, List.mem_cons] at h
    rcases h with h | h
    · exact ⟨a, le_refl _, by omega, h⟩
    · obtain ⟨j, h1, h2, h3⟩ := ih (a + 1) h
      exact ⟨j, by omega, by omega, h3⟩

theorem mono_of_pairwise (t : List Rat) (h : t.Pairwise (· ≤ ·)) : Mono t := by
  intro i j hij hj
  have hi : i < t.length := by omega
  simp only [tk, List.getD_eq_getElem?_getD, List.getElem?_eq_getElem hi, List.getElem?_eq_getElem hj,
    Option.getD_some]
  rcases Nat.lt_or_eq_of_le hij with hlt | rfl
  · exact (List.pairwise_iff_getElem.mp h) i j hi hj hlt
  · exact le_refl _

/-- On `[t_k, t_{n-k-1}]` (the boundary knots as `splev` sees them), if the interval the search
selects is not empty, all basis functions are non-negative and they sum to one. -/
theorem bsFullRow_partition (p : BsParams) (hm : Mono p.knots)
    (hlen : 2 * (p.degree + 1) ≤ p.knots.length) (x : Rat)
    (hlo : tk p.knots p.degree ≤ x) (hhi : x ≤ tk p.knots (p.knots.length - p.degree - 1))
    (hnd : bsDegenerate p.knots p.degree x = false) :
    (∀ v ∈ bsFullRow p x, 0 ≤ v) ∧ sum (bsFullRow p x) = 1 := by
  obtain ⟨h1, h2, hTl, h4⟩ := interval_bracket p.knots p.degree x hlen hlo
  have hTl1 : x ≤ tk p.knots (interval p.knots p.degree x + 1) := by
    rcases h4 with h | h
    · exact le_of_lt h
    · rw [h]; exact hhi
  have hlt := lt_of_le_of_ne (hm _ _ (Nat.le_succ _) (by omega)) (bsDegenerate_eq_false.mp hnd)
  constructor
  · intro v hv
    obtain ⟨j, _, _, rfl⟩ := mem_rowAux _ _ _ _ hv
    exact basis_nonneg p.knots hm _ x hTl hTl1 p.degree (by omega) j
  · exact basis_row_sum p.knots hm _ x hlt p.degree (nBases p) h1 (by unfold nBases; omega)
      (by omega)

theorem not_degenerate_inside (t : List Rat) (k : Nat) (x : Rat) (hlen : 2 * (k + 1) ≤ t.length)
    (hlo : tk t k ≤ x) (hhi : x < tk t (t.length - k - 1)) : bsDegenerate t k x = false := by
  obtain ⟨_, _, hTl, h4⟩ := interval_bracket t k x hlen hlo
  have hTl1 : x < tk t (interval t k x + 1) := by
    rcases h4 with h | h
    · exact h
    · rw [h]; exact hhi
  exact bsDegenerate_eq_false.mpr (ne_of_lt (lt_of_le_of_lt hTl hTl1))

end FormulaeModel.Transforms
