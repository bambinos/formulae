import FormulaeModel.Model.Pipeline
/-
The whole pipeline `designMatricesWith` as a chain of named stages: the front end (scanner, parser,
resolver, missing-value step), the predictors (common part: kinds, redundancy analysis, evaluation;
group-specific part) and the response, each a function of what the earlier stages return.
-/
namespace FormulaeModel.Pipeline
open FormulaeModel.Design

/-- `set_type` of every common term -/
def descsOf (env : Env) (atoms : List (String × Expr)) (common : List Terms.CTerm) :
    Except PErr (List Encoding.TermDesc) := common.mapM (termDesc env atoms)

/-- redundancy analysis: helper terms and flags -/
def codedOf (descs : List Encoding.TermDesc) : Except PErr (List Encoding.CodedTerm) :=
  match Encoding.run true descs with
  | .ok c => pure (Encoding.designTerms c)
  | .error er => .error (.encoding er)

def evalCommon (env : Env) (atoms : List (String × Expr)) (coded : List Encoding.CodedTerm) :
    Except PErr (List (String × Option TermOut)) :=
  coded.mapM (fun (ct : Encoding.CodedTerm) =>
    if ct.2.isEmpty && ct.1 == "Intercept" then pure (ct.1, none)
    else do
      let out ← liftE (trainTerm env atoms ⟨ct.1, ct.2.map (fun p => (p.1.name, p.2))⟩ false false)
      pure (ct.1, some out))

def commonPart (env : Env) (atoms : List (String × Expr)) (common : List Terms.CTerm) :
    Except PErr (List (String × Option TermOut)) := do
  let descs ← descsOf env atoms common
  let coded ← codedOf descs
  evalCommon env atoms coded

def groupOne (env : Env) (atoms : List (String × Expr)) (all : List Terms.GTerm) (g : Terms.GTerm) :
    Except PErr GroupOut := do
  let flag := match g.expr with
    | .intercept => true
    | _ => !(all.any (fun t => t.factor == g.factor && t.expr == .intercept))
  let factor ← match specOf g.factor true with
    | some s => pure s
    | none => .error (.shape "grouping factor is not a term")
  let expr ← match g.expr with
    | .intercept => pure none
    | t => match specOf t flag with
      | some s => pure (some s)
      | none => .error (.shape "effect is not a term")
  liftE (trainGroup env atoms ⟨gName g, expr, factor⟩)

def groupPart (env : Env) (atoms : List (String × Expr)) (group : List Terms.GTerm) :
    Except PErr (List GroupOut) :=
  (dictByName gName group).mapM (fun g => groupOne env atoms group g)

/-- common and group-specific parts as a function of the resolved right-hand side, the component
table and the environment (frame after the NA step + caller's names) -/
def predictors (common : List Terms.CTerm) (group : List Terms.GTerm) (atoms : List (String × Expr))
    (env : Env) : Except PErr (List (String × Option TermOut) × List GroupOut) := do
  let c ← commonPart env atoms common
  let g ← groupPart env atoms group
  pure (c, g)

def responsePart (env : Env) (atoms : List (String × Expr)) (resp : Option (List Terms.Atom)) :
    Except PErr (Option TermOut) :=
  match resp with
  | none => pure none
  | some cs => do
    let out ← liftE (trainTerm env atoms ⟨(Terms.CTerm.term cs).name, cs.map (fun a => (a.name, true))⟩ false true)
    pure (some out)

/-- the columns the NA step looks at -/
def usedCols (e : Expr) (f : Frame) : List String :=
  (NA.formulaVars e).filter ((f.map (·.name)).contains ·)

theorem naStep_guarded (actions : List String) (action : String) (used : List String) (f : Frame)
    (hn : f.nrows ≠ 0) (ha : actions.contains action = true) :
    NA.naStep actions action used f =
      (let sel := NA.selectCols used f
       let inc := NA.incompleteRows f.nrows sel
       if inc.any id then
         if action == "pass" then .ok sel
         else if action == "drop" then
           if inc.all id then .error .valueError else .ok (NA.keepRows sel (inc.map (!·)))
         else .error .valueError
       else .ok sel) := by
  unfold NA.naStep
  rw [if_neg (by simpa using hn), if_neg (by rw [ha]; decide)]

/-- a stage of the front end with its error translated -/
def stage {ε α : Type} (x : Except ε α) (g : ε → PErr) : Except PErr α :=
  match x with
  | .ok a => pure a
  | .error e => .error (g e)

theorem stage_bind_ok {ε α β : Type} {x : Except ε α} {g : ε → PErr} {f : α → Except PErr β} {b : β} :
    stage x g >>= f = .ok b ↔ ∃ a, x = .ok a ∧ f a = .ok b := by
  cases x with
  | error _ => exact ⟨nofun, nofun⟩
  | ok a => exact ⟨fun h => ⟨a, rfl, h⟩, fun ⟨_, ha, h⟩ => by cases ha; exact h⟩

theorem stage_bind_congr {ε α β : Type} {x : Except ε α} {g : ε → PErr} {f f' : α → Except PErr β}
    (h : ∀ a, x = .ok a → f a = f' a) : stage x g >>= f = stage x g >>= f' := by
  cases x with
  | error _ => rfl
  | ok a => exact h a rfl

/-- scanner, parser, resolver, missing-value step; `usedOf` reads the used variables off the formula -/
def frontEnd (usedOf : Expr → Terms.ModelV → List String) (table : Parser.Table)
    (ops : Resolver.OpTable) (actions : List String) (formula : String) (env : Env) (naAction : String) :
    Except PErr (Expr × Terms.ModelV × Frame) :=
  stage (Scanner.scan formula.toList) (fun _ => .scan) >>= fun ts =>
  stage (Parser.parse table ts) (fun _ => .parse) >>= fun e =>
  stage (Resolver.describe ops e) .resolve >>= fun m =>
  stage (NA.naStep actions naAction ((usedOf e m).filter ((env.frame.map (·.name)).contains ·)) env.frame)
    (fun _ => .na) >>= fun frame =>
  pure (e, m, frame)

theorem frontEnd_ok {usedOf : Expr → Terms.ModelV → List String} {table : Parser.Table}
    {ops : Resolver.OpTable} {actions : List String} {formula : String} {env : Env} {naAction : String}
    {e : Expr} {m : Terms.ModelV} {frame : Frame}
    (h : frontEnd usedOf table ops actions formula env naAction = .ok (e, m, frame)) :
    ∃ ts, Scanner.scan formula.toList = .ok ts ∧ Parser.parse table ts = .ok e ∧
      Resolver.describe ops e = .ok m ∧
      NA.naStep actions naAction ((usedOf e m).filter ((env.frame.map (·.name)).contains ·)) env.frame =
        .ok frame := by
  simp only [frontEnd, stage_bind_ok] at h
  obtain ⟨ts, h1, e', h2, m', h3, f', h4, h⟩ := h
  cases h
  exact ⟨ts, h1, h2, h3, h4⟩

/-- errors included.  Stage by stage: when a stage fails both sides are its error; when it succeeds
both sides are reduced to the next stage. -/
theorem designMatricesWith_eq (usedOf : Expr → Terms.ModelV → List String) (table : Parser.Table)
    (ops : Resolver.OpTable) (actions : List String) (formula : String) (env : Env) (naAction : String) :
    designMatricesWith usedOf table ops actions formula env naAction =
      frontEnd usedOf table ops actions formula env naAction >>= fun p =>
      predictors p.2.1.common p.2.1.group (atomTable p.1) { env with frame := p.2.2 } >>= fun cg =>
      responsePart { env with frame := p.2.2 } (atomTable p.1) p.2.1.resp >>= fun r =>
      pure ⟨p.2.2, r, cg.1, cg.2⟩ := by
  unfold designMatricesWith frontEnd predictors commonPart descsOf codedOf evalCommon
  simp only [bind_assoc]
  cases Scanner.scan formula.toList with
  | error _ => rfl
  | ok ts =>
  conv => lhs; whnf
  conv => rhs; whnf
  cases Parser.parse table ts with
  | error _ => rfl
  | ok e =>
  conv => lhs; whnf
  conv => rhs; whnf
  cases Resolver.describe ops e with
  | error _ => rfl
  | ok m =>
  conv => lhs; whnf
  conv => rhs; whnf
  cases NA.naStep actions naAction ((usedOf e m).filter ((env.frame.map (·.name)).contains ·)) env.frame with
  | error _ => rfl
  | ok frame =>
  conv => lhs; whnf
  conv => rhs; whnf; dsimp only
  cases List.mapM (termDesc ⟨frame, env.names⟩ (atomTable e)) m.common with
  | error _ => rfl
  | ok descs =>
  conv => lhs; whnf
  conv => rhs; whnf
  cases Encoding.run true descs with
  | error _ => rfl
  | ok c =>
  conv => lhs; whnf
  conv => rhs; whnf
  split
  · rfl
  conv => lhs; whnf
  conv => rhs; whnf
  -- the group-specific terms: the same function of `g`, written with `groupOne`
  split <;> rename_i hg <;> rw [show groupPart ⟨frame, env.names⟩ (atomTable e) m.group = _ from hg]
  conv => lhs; whnf
  conv => rhs; whnf
  cases m.resp with
  | none => rfl
  | some cs =>
  conv => lhs; whnf
  conv => rhs; whnf
  split <;> rename_i hr <;>
    rw [show responsePart ⟨frame, env.names⟩ (atomTable e) (some cs) = _ from
      congrArg (· >>= fun out => pure (some out)) hr] <;> rfl

theorem designMatricesWith_ok {usedOf : Expr → Terms.ModelV → List String} {table : Parser.Table}
    {ops : Resolver.OpTable} {actions : List String} {formula : String} {env : Env} {naAction : String}
    {b : Built} (h : designMatricesWith usedOf table ops actions formula env naAction = .ok b) :
    ∃ ts e m,
      Scanner.scan formula.toList = .ok ts ∧ Parser.parse table ts = .ok e ∧
      Resolver.describe ops e = .ok m ∧
      NA.naStep actions naAction ((usedOf e m).filter ((env.frame.map (·.name)).contains ·)) env.frame =
        .ok b.frame ∧
      predictors m.common m.group (atomTable e) { env with frame := b.frame } = .ok (b.common, b.group) ∧
      responsePart { env with frame := b.frame } (atomTable e) m.resp = .ok b.response := by
  rw [designMatricesWith_eq] at h
  cases hf : frontEnd usedOf table ops actions formula env naAction with
  | error _ => rw [hf] at h; cases h
  | ok p =>
    obtain ⟨e, m, frame⟩ := p
    obtain ⟨ts, h1, h2, h3, h4⟩ := frontEnd_ok hf
    rw [hf] at h
    replace h : (predictors m.common m.group (atomTable e) { env with frame := frame } >>= fun cg =>
        responsePart { env with frame := frame } (atomTable e) m.resp >>= fun r =>
        pure (⟨frame, r, cg.1, cg.2⟩ : Built)) = .ok b := h
    cases hp : predictors m.common m.group (atomTable e) { env with frame := frame } with
    | error _ => rw [hp] at h; cases h
    | ok cg =>
      cases hr : responsePart { env with frame := frame } (atomTable e) m.resp with
      | error _ => rw [hp, hr] at h; cases h
      | ok r =>
        rw [hp, hr] at h
        cases h
        exact ⟨ts, e, m, h1, h2, h3, h4, hp, hr⟩

end FormulaeModel.Pipeline
