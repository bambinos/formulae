import FormulaeModel.Proofs.ShapeComp
import FormulaeModel.Proofs.RowsTerm
/-
Rows and widths of terms and group-specific terms, at training time (`trainTerm_shape`,
`trainGroup_shape`) and on any later rectangular frame (`newTerm_shape`, `newGroup_shape`).
-/
namespace FormulaeModel.Design

/-- mirrors `reduceLabels` / `reduceMatrices`: nothing for no component -/
def reduceWidths : List Nat → Nat
  | [] => 0
  | w :: ws => ws.foldl (· * ·) w

theorem interactionMatrix_width (x y : Matrix) (a b : Nat) (hx : HasWidth x a) (hy : HasWidth y b) :
    HasWidth (interactionMatrix x y) (a * b) := by
  intro r hr
  rw [List.mem_iff_getElem] at hr
  obtain ⟨i, hi, rfl⟩ := hr
  have hi' : i < min x.length y.length := by simpa [interactionMatrix] using hi
  rw [interactionMatrix_row x y i (by omega) (by omega), length_rowProd,
    hx _ (List.getElem_mem _), hy _ (List.getElem_mem _)]

theorem interactionLabels_length (x y : List String) :
    (interactionLabels x y).length = x.length * y.length := by
  rw [interactionLabels_eq, length_labelProd]

theorem foldl_labels_length (ls : List (List String)) (acc : List String) :
    (ls.foldl interactionLabels acc).length = (ls.map List.length).foldl (· * ·) acc.length := by
  induction ls generalizing acc with
  | nil => rfl
  | cons l ls ih =>
    simp only [List.foldl_cons, List.map_cons]
    rw [ih, interactionLabels_length]

theorem reduceLabels_length (ls : List (List String)) :
    (reduceLabels ls).length = reduceWidths (ls.map List.length) := by
  cases ls with
  | nil => rfl
  | cons l ls => exact foldl_labels_length ls l

theorem foldl_interaction_shape {γ : Type} (val : γ → Matrix) (wd : γ → Nat) (n : Nat) (os : List γ)
    (h : ∀ o ∈ os, (val o).length = n ∧ HasWidth (val o) (wd o)) (acc : Matrix) (accw : Nat)
    (hl : acc.length = n) (hacc : HasWidth acc accw) :
    ((os.map val).foldl interactionMatrix acc).length = n ∧
      HasWidth ((os.map val).foldl interactionMatrix acc) ((os.map wd).foldl (· * ·) accw) := by
  induction os generalizing acc accw with
  | nil => exact ⟨hl, hacc⟩
  | cons o os ih =>
    simp only [List.map_cons, List.foldl_cons]
    obtain ⟨h1, h2⟩ := h o (by simp)
    apply ih (fun o' ho' => h o' (by simp [ho']))
    · rw [interactionMatrix_length, hl, h1]; simp
    · exact interactionMatrix_width _ _ _ _ hacc h2

theorem reduceMatrices_shape {γ : Type} (val : γ → Matrix) (wd : γ → Nat) (n : Nat) (os : List γ)
    (h : ∀ o ∈ os, (val o).length = n ∧ HasWidth (val o) (wd o)) :
    (os ≠ [] → (reduceMatrices (os.map val)).length = n) ∧
      HasWidth (reduceMatrices (os.map val)) (reduceWidths (os.map wd)) := by
  cases os with
  | nil => exact ⟨fun h => absurd rfl h, fun r hr => by simp [reduceMatrices] at hr⟩
  | cons o os =>
    obtain ⟨h1, h2⟩ := h o (by simp)
    have := foldl_interaction_shape val wd n os (fun o' ho' => h o' (by simp [ho'])) (val o) (wd o) h1 h2
    exact ⟨fun _ => this.1, this.2⟩

theorem reduceMatrices_someWidth (ms : List Matrix) (h : ∀ m ∈ ms, ∃ w, HasWidth m w) :
    ∃ w, HasWidth (reduceMatrices ms) w :=
  reduceMatrices_induct (fun m => ∃ w, HasWidth m w)
    (fun x y ⟨a, ha⟩ ⟨b, hb⟩ => ⟨a * b, interactionMatrix_width x y a b ha hb⟩) ms
    (fun _ => ⟨0, nofun⟩) h

theorem option_mapM_cons {α β : Type} (f : α → Option β) (x : α) (xs : List α) (ys : List β) :
    (x :: xs).mapM f = some ys ↔ ∃ y ys', f x = some y ∧ xs.mapM f = some ys' ∧ ys = y :: ys' := by
  rw [List.mapM_cons]
  cases hfx : f x with
  | none => simp
  | some y =>
    cases hxs : xs.mapM f with
    | none => simp
    | some ys' =>
      simp only [Option.pure_def, Option.bind_eq_bind, Option.bind_some, Option.some.injEq]
      constructor
      · intro h; exact ⟨y, ys', rfl, rfl, h.symm⟩
      · rintro ⟨y', ys'', h1, h2, h3⟩; cases h1; cases h2; exact h3.symm

theorem option_mapM_map {α β δ : Type} (f : α → Option β) (g : β → δ) (k : α → δ) (xs : List α)
    (ys : List β) (h : xs.mapM f = some ys) (hstep : ∀ x ∈ xs, ∀ y, f x = some y → g y = k x) :
    ys.map g = xs.map k ∧ ∀ x ∈ xs, ∃ y, f x = some y := by
  induction xs generalizing ys with
  | nil =>
    simp only [List.mapM_nil, Option.pure_def, Option.some.injEq] at h
    subst h
    simp
  | cons x xs ih =>
    rw [option_mapM_cons] at h
    obtain ⟨y, ys', h1, h2, rfl⟩ := h
    obtain ⟨a, b⟩ := ih ys' h2 (fun x' hx' => hstep x' (by simp [hx']))
    refine ⟨by simp [a, hstep x (by simp) y h1], ?_⟩
    intro x' hx'
    simp only [List.mem_cons] at hx'
    rcases hx' with rfl | hx'
    · exact ⟨y, h1⟩
    · exact b x' hx'

def TermState.width (t : TermState) : Nat := reduceWidths (t.comps.map CompState.width)

structure TermOut.Shaped (n : Nat) (ncomps : Nat) (out : TermOut) : Prop where
  rows : ncomps ≠ 0 → out.data.length = n
  ncomps : out.st.comps.length = ncomps
  state : ∀ c ∈ out.st.comps, c.shapeOk
  cols : ∀ ls, out.labels = some ls → HasWidth out.data ls.length ∧ ls.length = out.st.width
  uniform : ∃ w, HasWidth out.data w

/-- `Term.set_type` + `Term.set_data` -/
theorem trainTerm_shape (env : Env) (hwf : env.frame.wellFormed = true)
    (hn : env.namesSized env.frame.nrows = true) (table : List (String × Expr)) (spec : TermSpec)
    (forced isResponse : Bool) (out : TermOut)
    (h : trainTerm env table spec forced isResponse = .ok out) :
    out.Shaped env.frame.nrows spec.comps.length := by
  obtain ⟨outs, houts, hlen, rfl⟩ := trainTerm_ok _ _ _ _ _ _ h
  have hall : ∀ o ∈ outs, CompOut.Shaped env.frame.nrows o :=
    mapM_forall _ (fun o => CompOut.Shaped env.frame.nrows o) _ _ houts (by
      intro c _ o ho
      simp only [bind_ok] at ho
      obtain ⟨e, _, ho⟩ := ho
      exact trainComp_shape env hwf hn _ _ _ _ _ _ ho)
  have huni : ∃ w, HasWidth (reduceMatrices (outs.map (·.value))) w := by
    apply reduceMatrices_someWidth
    intro a ha
    simp only [List.mem_map] at ha
    obtain ⟨o, ho, rfl⟩ := ha
    exact (hall o ho).uniform
  refine ⟨?_, by simp [hlen], ?_, ?_, huni⟩
  · intro hne
    apply reduceMatrices_length
    · intro hnil
      rw [List.map_eq_nil_iff] at hnil
      rw [hnil] at hlen
      exact hne hlen.symm
    · intro a ha
      simp only [List.mem_map] at ha
      obtain ⟨o, ho, rfl⟩ := ha
      exact (hall o ho).rows
  · intro c hc
    simp only [List.mem_map] at hc
    obtain ⟨o, ho, rfl⟩ := hc
    exact (hall o ho).state
  · intro ls hls
    simp only [Option.map_eq_some_iff] at hls
    obtain ⟨lss, hlss, rfl⟩ := hls
    obtain ⟨hmap, hsome⟩ := option_mapM_map (fun (o : CompOut) => o.labels) List.length
      (fun o => o.st.width) outs lss hlss (by
        intro o ho l hl
        exact ((hall o ho).cols l hl).2)
    have hw : ∀ o ∈ outs, o.value.length = env.frame.nrows ∧ HasWidth o.value o.st.width := by
      intro o ho
      obtain ⟨l, hl⟩ := hsome o ho
      obtain ⟨a, b⟩ := (hall o ho).cols l hl
      exact ⟨(hall o ho).rows, by rw [← b]; exact a⟩
    have hred := (reduceMatrices_shape (fun (o : CompOut) => o.value) (fun o => o.st.width)
      env.frame.nrows outs hw).2
    refine ⟨?_, ?_⟩
    · rw [reduceLabels_length, hmap]
      exact hred
    · simp only [TermState.width, List.map_map]
      rw [reduceLabels_length, hmap]
      rfl

theorem newTerm_fold (env : Env) (hwf : env.frame.wellFormed = true)
    (hn : env.namesSized env.frame.nrows = true) (mode : UnseenMode) (comps : List CompState) :
    ∀ (outs : List (Matrix × Bool)), comps.mapM (fun c => newComp c env mode) = .ok outs →
      (∀ c ∈ comps, c.shapeOk) → ∀ (acc : Matrix) (accw : Nat), acc.length = env.frame.nrows →
        HasWidth acc accw →
        ((outs.map (·.1)).foldl interactionMatrix acc).length = env.frame.nrows ∧
          HasWidth ((outs.map (·.1)).foldl interactionMatrix acc)
            ((comps.map CompState.width).foldl (· * ·) accw) := by
  induction comps with
  | nil =>
    intro outs h _ acc accw hl hacc
    simp only [List.mapM_nil, pure_ok] at h
    subst h
    exact ⟨hl, hacc⟩
  | cons c comps ih =>
    intro outs h hst acc accw hl hacc
    rw [List.mapM_cons] at h
    simp only [bind_ok, pure_ok] at h
    obtain ⟨⟨m, w⟩, hc, outs', houts', rfl⟩ := h
    obtain ⟨h1, h2⟩ := newComp_shape c (hst c (by simp)) env hwf hn mode m w hc
    simp only [List.map_cons, List.foldl_cons]
    apply ih outs' houts' (fun c' hc' => hst c' (by simp [hc']))
    · rw [interactionMatrix_length, hl, h1]; simp
    · exact interactionMatrix_width _ _ _ _ hacc h2

/-- `Term.eval_new_data` on any rectangular frame -/
theorem newTerm_shape (t : TermState) (hst : ∀ c ∈ t.comps, c.shapeOk) (env : Env)
    (hwf : env.frame.wellFormed = true) (hn : env.namesSized env.frame.nrows = true)
    (mode : UnseenMode) (m : Matrix) (w : Bool) (h : newTerm t env mode = .ok (m, w)) :
    (t.comps ≠ [] → m.length = env.frame.nrows) ∧ HasWidth m t.width := by
  unfold newTerm at h
  simp only [bind_ok, pure_ok, Prod.mk.injEq] at h
  obtain ⟨outs, houts, rfl, rfl⟩ := h
  unfold TermState.width
  cases hcs : t.comps with
  | nil =>
    rw [hcs] at houts
    simp only [List.mapM_nil, pure_ok] at houts
    subst houts
    exact ⟨fun h => absurd rfl h, fun r hr => by simp [reduceMatrices] at hr⟩
  | cons c comps =>
    rw [hcs] at houts hst
    rw [List.mapM_cons] at houts
    simp only [bind_ok, pure_ok] at houts
    obtain ⟨⟨m0, w0⟩, hc, outs', houts', rfl⟩ := houts
    obtain ⟨h1, h2⟩ := newComp_shape c (hst c (by simp)) env hwf hn mode m0 w0 hc
    have := newTerm_fold env hwf hn mode comps outs' houts' (fun c' hc' => hst c' (by simp [hc']))
      m0 c.width h1 h2
    exact ⟨fun _ => this.1, this.2⟩

def GroupState.effectWidth (g : GroupState) : Nat :=
  match g.expr with
  | none => 1
  | some t => t.width

/-- a group-specific term names at least one grouping component and, unless it is `(1 | g)`, at
least one effect component (always the case for a `GroupSpecificTerm` of the library) -/
def GroupSpec.nonempty (spec : GroupSpec) : Bool :=
  !spec.factor.comps.isEmpty &&
    (match spec.expr with
     | none => true
     | some ts => !ts.comps.isEmpty)

def GroupState.nonempty (g : GroupState) : Bool :=
  !g.factor.comps.isEmpty &&
    (match g.expr with
     | none => true
     | some t => !t.comps.isEmpty)

def GroupState.shapeOk (g : GroupState) : Prop :=
  (∀ c ∈ g.factor.comps, c.shapeOk) ∧ ∀ t, g.expr = some t → ∀ c ∈ t.comps, c.shapeOk

structure GroupOut.Shaped (n : Nat) (ne : Bool) (out : GroupOut) : Prop where
  rows : ne = true → out.data.length = n
  nonempty : out.st.nonempty = ne
  state : out.st.shapeOk
  cols : ∀ ls, out.labels = some ls →
    HasWidth out.data ls.length ∧ ls.length = out.st.factor.width * out.st.effectWidth
  uniform : ∃ w, HasWidth out.data w

theorem hasWidth_onesCol (n : Nat) : HasWidth (onesCol n) 1 := hasWidth_replicate n [some 1]

theorem length_ne_zero_of_isEmpty {α : Type} (l : List α) (h : (!l.isEmpty) = true) : l.length ≠ 0 := by
  cases l <;> simp_all

theorem isEmpty_congr {α β : Type} (a : List α) (b : List β) (h : a.length = b.length) :
    a.isEmpty = b.isEmpty := by
  cases a <;> cases b <;> simp_all

theorem group_cols (f : TermOut) (n nf : Nat) (hfs : f.Shaped n nf) (xi : Matrix)
    (el : Option (List String)) (we : Nat)
    (hel : ∀ l, el = some l → HasWidth xi l.length ∧ l.length = we) (ls : List String)
    (hls : (do
      let fl ← f.labels
      let el ← el
      pure (fl.flatMap (fun g => el.map (fun l => l ++ "|" ++ g)))) = some ls) :
    HasWidth (khatriRao f.data xi) ls.length ∧ ls.length = f.st.width * we := by
  simp only [Option.bind_eq_bind, Option.bind_eq_some_iff, Option.pure_def, Option.some.injEq] at hls
  obtain ⟨fl, hfl, l, hl, rfl⟩ := hls
  obtain ⟨a, b⟩ := hfs.cols fl hfl
  obtain ⟨c, d⟩ := hel l hl
  have hlen : (fl.flatMap (fun g => l.map (fun x => x ++ "|" ++ g))).length = fl.length * l.length :=
    length_labelProd bar fl l
  rw [hlen]
  exact ⟨interactionMatrix_width _ _ _ _ a c, by rw [b, d]⟩

theorem trainGroup_shape (env : Env) (hwf : env.frame.wellFormed = true)
    (hn : env.namesSized env.frame.nrows = true) (table : List (String × Expr)) (spec : GroupSpec)
    (out : GroupOut) (h : trainGroup env table spec = .ok out) :
    out.Shaped env.frame.nrows spec.nonempty := by
  obtain ⟨f, xi, est, kind, el, hf, hcase, rfl⟩ := trainGroup_ok env table spec out h
  have hfs := trainTerm_shape env hwf hn table _ true false f hf
  simp only [List.length_map] at hfs
  have hfne := congrArg (!·) (isEmpty_congr _ _ hfs.ncomps)
  rcases hcase with ⟨hse, rfl, rfl, rfl, -⟩ | ⟨ts, t, hse, ht, rfl, rfl, rfl, -⟩
  · refine ⟨?_, ?_, ⟨hfs.state, by simp⟩, ?_, ?_⟩
    rotate_right
    · obtain ⟨a, ha⟩ := hfs.uniform
      exact ⟨a * 1, interactionMatrix_width _ _ _ _ ha (hasWidth_onesCol _)⟩
    · intro hne
      simp only [GroupSpec.nonempty, hse, Bool.and_true] at hne
      simp only [khatriRao, interactionMatrix_length, onesCol, List.length_replicate]
      rw [hfs.rows (length_ne_zero_of_isEmpty _ hne)]
      simp
    · simp only [GroupState.nonempty, GroupSpec.nonempty, hse, Bool.and_true]
      exact hfne
    · intro ls hls
      exact group_cols f _ _ hfs _ (some ["1"]) 1
        (by intro l hl; cases hl; exact ⟨hasWidth_onesCol _, rfl⟩) ls hls
  · have hts := trainTerm_shape env hwf hn table _ false false t ht
    have htne := congrArg (!·) (isEmpty_congr _ _ hts.ncomps)
    refine ⟨?_, ?_, ⟨hfs.state, ?_⟩, ?_, ?_⟩
    rotate_right
    · obtain ⟨a, ha⟩ := hfs.uniform
      obtain ⟨b, hb⟩ := hts.uniform
      exact ⟨a * b, interactionMatrix_width _ _ _ _ ha hb⟩
    · intro hne
      simp only [GroupSpec.nonempty, hse, Bool.and_eq_true] at hne
      simp only [khatriRao, interactionMatrix_length]
      rw [hfs.rows (length_ne_zero_of_isEmpty _ hne.1), hts.rows (length_ne_zero_of_isEmpty _ hne.2)]
      simp
    · simp only [GroupState.nonempty, GroupSpec.nonempty, hse]
      rw [hfne, htne]
    · intro t' ht' c hc
      simp only [Option.some.injEq] at ht'
      subst ht'
      exact hts.state c hc
    · intro ls hls
      exact group_cols f _ _ hfs _ t.labels t.st.width (fun l hl => hts.cols l hl) ls hls

/-- one more column when a row matches no remembered group -/
def widenJ (ji : Matrix) : Matrix :=
  if ji.any isZeroRow then ji.map (fun r => r ++ [some (if isZeroRow r then 1 else 0)]) else ji

theorem widen_shape (ji xi : Matrix) (n wj we : Nat) (hj : ji.length = n) (hx : xi.length = n)
    (hwj : HasWidth ji wj) (hwx : HasWidth xi we) :
    (khatriRao (widenJ ji) xi).length = n ∧
      (ji.any isZeroRow = false → HasWidth (khatriRao (widenJ ji) xi) (wj * we)) ∧
      (ji.any isZeroRow = true → HasWidth (khatriRao (widenJ ji) xi) ((wj + 1) * we)) := by
  refine ⟨?_, ?_, ?_⟩
  · simp only [khatriRao, interactionMatrix_length, widenJ]
    split <;> simp [hj, hx]
  · intro hz
    simp only [widenJ, hz, Bool.false_eq_true, if_false]
    exact interactionMatrix_width _ _ _ _ hwj hwx
  · intro hz
    simp only [widenJ, hz, if_true]
    apply interactionMatrix_width _ _ _ _ _ hwx
    intro r hr
    simp only [List.mem_map] at hr
    obtain ⟨r0, hr0, rfl⟩ := hr
    simp [hwj r0 hr0]

theorem newGroup_shape (g : GroupState) (hst : g.shapeOk) (hne : g.nonempty = true) (env : Env)
    (hwf : env.frame.wellFormed = true) (hn : env.namesSized env.frame.nrows = true)
    (mode : UnseenMode) (m : Matrix) (w : Bool) (h : newGroup g env mode = .ok (m, w)) :
    m.length = env.frame.nrows ∧
    ∃ ji w2, newTerm g.factor env mode = .ok (ji, w2) ∧
      (ji.any isZeroRow = false → HasWidth m (g.factor.width * g.effectWidth)) ∧
      (ji.any isZeroRow = true → HasWidth m ((g.factor.width + 1) * g.effectWidth)) := by
  unfold newGroup at h
  simp only [GroupState.nonempty, Bool.and_eq_true] at hne
  have hfne : g.factor.comps ≠ [] := by
    intro hnil; rw [hnil] at hne; simp at hne
  split at h
  · rename_i hge
    simp only [pure_bind, bind_ok, pure_ok, Prod.mk.injEq] at h
    obtain ⟨⟨ji, w2⟩, hji, rfl, rfl⟩ := h
    obtain ⟨h1, h2⟩ := newTerm_shape g.factor hst.1 env hwf hn mode ji w2 hji
    have := widen_shape ji (onesCol env.frame.nrows) env.frame.nrows _ 1 (h1 hfne) (by simp [onesCol]) h2
      (hasWidth_onesCol _)
    simp only [GroupState.effectWidth, hge]
    exact ⟨this.1, ji, w2, hji, this.2⟩
  · rename_i t hge
    simp only [bind_ok, pure_ok, Prod.mk.injEq] at h
    obtain ⟨⟨xi, w1⟩, hxi, ⟨ji, w2⟩, hji, rfl, rfl⟩ := h
    obtain ⟨h1, h2⟩ := newTerm_shape g.factor hst.1 env hwf hn mode ji w2 hji
    obtain ⟨h3, h4⟩ := newTerm_shape t (hst.2 t hge) env hwf hn mode xi w1 hxi
    have htne : t.comps ≠ [] := by
      intro hnil; simp only [hge] at hne; rw [hnil] at hne; simp at hne
    have := widen_shape ji xi env.frame.nrows _ _ (h1 hfne) (h3 htne) h2 h4
    simp only [GroupState.effectWidth, hge]
    exact ⟨this.1, ji, w2, hji, this.2⟩

end FormulaeModel.Design
