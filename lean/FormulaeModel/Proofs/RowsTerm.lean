import FormulaeModel.Proofs.RowsComp
import FormulaeModel.Proofs.Folds
/-
What `trainTerm` / `trainGroup` return; `newTerm` / `newGroup` on selected rows of the training
frame return the selected rows of the training matrix (a full-coded factor has no all-zero row).
-/
namespace FormulaeModel.Design
open FormulaeModel.Spec.C06

theorem selectRows_length' (m : Matrix) (is : List Nat) : (selectRows m is).length = is.length := by
  simp [selectRows]

theorem isZeroRow_false_iff (r : List Entry) : isZeroRow r = false ↔ ∃ x ∈ r, x ≠ some 0 := by
  simp [isZeroRow, List.all_eq_false]

theorem entry_mul_ne_zero (a b : Entry) (ha : a ≠ some 0) (hb : b ≠ some 0) : Entry.mul a b ≠ some 0 := by
  cases a with
  | none => simp [Entry.mul]
  | some a =>
    cases b with
    | none => simp [Entry.mul]
    | some b =>
      simp only [Entry.mul, ne_eq, Option.some.injEq, Rat.mul_eq_zero, not_or] at ha hb ⊢
      exact ⟨ha, hb⟩

theorem rowProd_nonzero (rx ry : List Entry) (hx : isZeroRow rx = false) (hy : isZeroRow ry = false) :
    isZeroRow (rowProd rx ry) = false := by
  rw [isZeroRow_false_iff] at hx hy ⊢
  obtain ⟨a, ha, ha0⟩ := hx
  obtain ⟨b, hb, hb0⟩ := hy
  refine ⟨Entry.mul a b, ?_, entry_mul_ne_zero a b ha0 hb0⟩
  simp only [rowProd, List.mem_flatMap, List.mem_map]
  exact ⟨a, ha, b, hb, rfl⟩

theorem interactionMatrix_nonzero (x y : Matrix) (hx : NoZeroRow x) (hy : NoZeroRow y) :
    NoZeroRow (interactionMatrix x y) := by
  intro r hr
  obtain ⟨k, hk, rfl⟩ := List.mem_iff_getElem.1 hr
  simp only [interactionMatrix, List.length_zipWith] at hk
  rw [interactionMatrix_row x y k (by omega) (by omega)]
  exact rowProd_nonzero _ _ (hx _ (List.getElem_mem _)) (hy _ (List.getElem_mem _))

theorem reduceMatrices_nonzero (ms : List Matrix) (hne : ms ≠ []) (h : ∀ a ∈ ms, NoZeroRow a) :
    NoZeroRow (reduceMatrices ms) :=
  reduceMatrices_induct NoZeroRow interactionMatrix_nonzero ms (fun h0 => absurd h0 hne) h

theorem selectRows_nonzero (m : Matrix) (is : List Nat) (h : NoZeroRow m) (his : ∀ i ∈ is, i < m.length) :
    NoZeroRow (selectRows m is) := by
  intro r hr
  exact h r (mem_pick is [] m his r hr)

theorem trainTerm_ok (env : Env) (table : List (String × Expr)) (spec : TermSpec)
    (forced isResponse : Bool) (out : TermOut)
    (h : trainTerm env table spec forced isResponse = .ok out) :
    ∃ outs : List CompOut,
      spec.comps.mapM (fun (c : String × Bool) => do
        trainComp env c.1 (← compExpr table c.1) forced isResponse c.2) = .ok outs ∧
      outs.length = spec.comps.length ∧
      out = ⟨⟨spec.name, outs.map (·.st), match outs with
            | [o] => o.st.kind.name
            | _ => "interaction"⟩,
        reduceMatrices (outs.map (·.value)),
        (outs.mapM (fun (o : CompOut) => o.labels)).map reduceLabels⟩ := by
  unfold trainTerm at h
  simp only [bind_ok, pure_ok] at h
  obtain ⟨outs, houts, rfl⟩ := h
  exact ⟨outs, houts, (mapM_ok_get _ _ _ houts).1, rfl⟩

def TermOk (env : Env) (table : List (String × Expr)) (spec : TermSpec) : Prop :=
  spec.comps ≠ [] ∧
  ∀ c ∈ spec.comps, ∀ e, compExpr table c.1 = .ok e → RowwiseOk e = true ∧ D13Free env e = true

theorem trainTerm_rows (env : Env) (hwf : env.frame.wellFormed = true) (hn : env.namesScalar = true)
    (is : List Nat) (his : ∀ i ∈ is, i < env.frame.nrows) (table : List (String × Expr))
    (spec : TermSpec) (forced : Bool) (mode : UnseenMode) (out : TermOut)
    (hok : TermOk env table spec)
    (h : trainTerm env table spec forced false = .ok out) :
    newTerm out.st (env.rows is) mode = .ok (selectRows out.data is, false) ∧
      out.data.length = env.frame.nrows := by
  obtain ⟨outs, houts, hlen, rfl⟩ := trainTerm_ok _ _ _ _ _ _ h
  have hne : outs ≠ [] := fun h0 => hok.1 (List.length_eq_zero_iff.1 (h0 ▸ hlen).symm)
  have hcomp : ∀ c ∈ spec.comps, ∀ o,
      (do trainComp env c.1 (← compExpr table c.1) forced false c.2) = Except.ok o →
      newComp o.st (env.rows is) mode = .ok (selectRows o.value is, false) ∧
        o.value.length = env.frame.nrows := by
    intro c hc o ho
    simp only [bind_ok] at ho
    obtain ⟨e, he, ho⟩ := ho
    obtain ⟨h1, h2⟩ := hok.2 c hc e he
    exact trainComp_rows env hwf hn is his c.1 e forced c.2 mode o h1 h2 ho
  have hnew := mapM_ok_map _ (fun (o : CompOut) => newComp o.st (env.rows is) mode)
    (fun o => (selectRows o.value is, false)) _ _ houts (fun c hc o ho => (hcomp c hc o ho).1)
  have hlens := mapM_forall _ (fun o => o.value.length = env.frame.nrows) _ _ houts
    (fun c hc o ho => (hcomp c hc o ho).2)
  constructor
  · unfold newTerm
    simp only [List.mapM_map, Function.comp_def, hnew, ok_bind, pure_ok, Prod.mk.injEq, List.map_map, List.any_map]
    constructor
    · rw [selectRows_reduceMatrices _ (by simpa using hne)]
      simp [List.map_map, Function.comp_def]
    · simp
  · exact reduceMatrices_length _ (by simpa using hne) _ (by simpa using hlens)

/-- a grouping factor (every component forced to categoric and coded full) has no all-zero row -/
theorem trainTerm_nonzero (env : Env) (table : List (String × Expr)) (spec : TermSpec) (out : TermOut)
    (hne : spec.comps ≠ []) (hfull : ∀ c ∈ spec.comps, c.2 = true)
    (h : trainTerm env table spec true false = .ok out) : NoZeroRow out.data := by
  obtain ⟨outs, houts, hlen, rfl⟩ := trainTerm_ok _ _ _ _ _ _ h
  have hne' : outs ≠ [] := fun h0 => hne (List.length_eq_zero_iff.1 (h0 ▸ hlen).symm)
  have := mapM_forall _ (fun o => NoZeroRow o.value) _ _ houts (by
    intro c hc o ho
    simp only [bind_ok] at ho
    obtain ⟨e, he, ho⟩ := ho
    rw [hfull c hc] at ho
    exact trainComp_nonzero env c.1 e o ho)
  exact reduceMatrices_nonzero _ (by simpa using hne') (by simpa using this)

def GroupOk (env : Env) (table : List (String × Expr)) (spec : GroupSpec) : Prop :=
  TermOk env table spec.factor ∧ ∀ ts, spec.expr = some ts → TermOk env table ts

theorem trainGroup_ok (env : Env) (table : List (String × Expr)) (spec : GroupSpec) (out : GroupOut)
    (h : trainGroup env table spec = .ok out) :
    ∃ f xi est kind el,
      trainTerm env table { spec.factor with comps := spec.factor.comps.map (fun c => (c.1, true)) }
        true false = .ok f ∧
      (spec.expr = none ∧ xi = onesCol env.frame.nrows ∧ est = none ∧ el = some ["1"] ∧
          kind = "intercept" ∨
        ∃ ts t, spec.expr = some ts ∧ trainTerm env table ts false false = .ok t ∧
          xi = t.data ∧ est = some t.st ∧ el = t.labels ∧ kind = t.st.kind) ∧
      out = ⟨⟨spec.name, est, f.st,
          reduceLabels (f.st.comps.map (fun c => (c.contrast.map (·.labels)).getD [])), kind⟩,
        khatriRao f.data xi, do
          let fl ← f.labels
          let el ← el
          pure (fl.flatMap (fun g => el.map (fun l => l ++ "|" ++ g)))⟩ := by
  unfold trainGroup at h
  rw [bind_ok] at h
  obtain ⟨f, hf, h⟩ := h
  cases hse : spec.expr with
  | none =>
    simp only [hse, pure_bind, pure_ok] at h
    exact ⟨f, _, _, _, _, hf, .inl ⟨rfl, rfl, rfl, rfl, rfl⟩, h.symm⟩
  | some ts =>
    simp only [hse, bind_ok, pure_ok] at h
    obtain ⟨t, ht, _, rfl, rfl⟩ := h
    exact ⟨f, _, _, _, _, hf, .inr ⟨ts, t, rfl, ht, rfl, rfl, rfl, rfl⟩, rfl⟩

/-- no indicator row is all zero: no column is appended -/
theorem newGroup_nonzero (g : GroupState) (env : Env) (mode : UnseenMode) (xi ji : Matrix) (w1 w2 : Bool)
    (hx : (match g.expr with
      | none => pure (onesCol env.frame.nrows, false)
      | some t => newTerm t env mode) = .ok (xi, w1))
    (hj : newTerm g.factor env mode = .ok (ji, w2)) (hz : NoZeroRow ji) :
    newGroup g env mode = .ok (khatriRao ji xi, w1 || w2) := by
  have hz' : ji.any (fun r => r.all (fun x => x == some 0)) = false :=
    List.any_eq_false.2 fun r hr => Bool.not_eq_true _ ▸ hz r hr
  unfold newGroup
  cases hg : g.expr <;> simp only [hg] at hx <;>
    simp only [hx, hj, hz', ok_bind, Bool.false_eq_true, if_false] <;> rfl

theorem trainGroup_rows (env : Env) (hwf : env.frame.wellFormed = true) (hn : env.namesScalar = true)
    (is : List Nat) (his : ∀ i ∈ is, i < env.frame.nrows) (table : List (String × Expr))
    (spec : GroupSpec) (mode : UnseenMode) (out : GroupOut)
    (hok : GroupOk env table spec)
    (h : trainGroup env table spec = .ok out) :
    newGroup out.st (env.rows is) mode = .ok (selectRows out.data is, false) ∧
      out.data.length = env.frame.nrows := by
  obtain ⟨f, xi, est, kind, el, hf, hcase, rfl⟩ := trainGroup_ok env table spec out h
  have hokf : TermOk env table { spec.factor with comps := spec.factor.comps.map (fun c => (c.1, true)) } :=
    ⟨by simpa using hok.1.1, fun c hc e he => by
      obtain ⟨c0, hc0, rfl⟩ := List.mem_map.1 hc
      exact hok.1.2 c0 hc0 e he⟩
  obtain ⟨hfnew, hflen⟩ := trainTerm_rows env hwf hn is his table _ true mode f hokf hf
  have hfz := selectRows_nonzero f.data is (trainTerm_nonzero env table _ f hokf.1 (by simp) hf)
    (fun i hi => hflen ▸ his i hi)
  have hx : (match est with
      | none => (pure (onesCol (env.rows is).frame.nrows, false) : M (Matrix × Bool))
      | some t => newTerm t (env.rows is) mode) = .ok (selectRows xi is, false) ∧
      xi.length = env.frame.nrows := by
    rcases hcase with ⟨-, rfl, rfl, -, -⟩ | ⟨ts, t, hse, ht, rfl, rfl, -, -⟩
    · refine ⟨?_, List.length_replicate⟩
      rw [selectRows_onesCol _ is his, ← frame_nrows_rows env.frame is his]
      rfl
    · exact trainTerm_rows env hwf hn is his table ts false mode t (hok.2 ts hse) ht
  refine ⟨?_, by simp only [khatriRao, interactionMatrix_length, hflen, hx.2, Nat.min_self]⟩
  rw [newGroup_nonzero _ _ mode _ _ _ _ hx.1 hfnew hfz, khatriRao, khatriRao, selectRows_interactionMatrix]
  rfl

end FormulaeModel.Design
