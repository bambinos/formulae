import FormulaeModel.Spec.C14
import Mathlib.Tactic.Ring
import Mathlib.Algebra.Order.Field.Rat
/-
Helper lemmas for C14: sums, means, the Center / Scale state machines.
-/
namespace FormulaeModel.Transforms

theorem sum_map_sub (m : Rat) (x : List Rat) :
    sum (x.map (fun v => v - m)) = sum x - (x.length : Rat) * m := by
  induction x with
  | nil => simp [sum]
  | cons a l ih => simp only [List.map_cons, sum, ih, List.length_cons]; push_cast; ring

theorem sum_map_add (f g : Rat → Rat) (x : List Rat) :
    sum (x.map (fun v => f v + g v)) = sum (x.map f) + sum (x.map g) := by
  induction x with
  | nil => simp [sum]
  | cons a l ih => simp only [List.map_cons, sum, ih]; ring

theorem sum_map_mul_left (c : Rat) (f : Rat → Rat) (x : List Rat) :
    sum (x.map (fun v => c * f v)) = c * sum (x.map f) := by
  induction x with
  | nil => simp [sum]
  | cons a l ih => simp only [List.map_cons, sum, ih]; ring

theorem sum_map_const (c : Rat) (x : List Rat) :
    sum (x.map (fun _ => c)) = (x.length : Rat) * c := by
  induction x with
  | nil => simp [sum]
  | cons a l ih => simp only [List.map_cons, sum, ih, List.length_cons]; push_cast; ring

theorem sum_map_nonneg (f : Rat → Rat) (x : List Rat) (h : ∀ v ∈ x, 0 ≤ f v) :
    0 ≤ sum (x.map f) := by
  induction x with
  | nil => simp [sum]
  | cons a l ih =>
    exact add_nonneg (h a List.mem_cons_self) (ih fun v hv => h v (List.mem_cons_of_mem a hv))

theorem range1_eq_range' (m : Nat) : range1 m = List.range' 1 m := by
  induction m with
  | zero => rfl
  | succ m ih => rw [range1, ih, List.range'_1_concat, Nat.add_comm]

theorem sum_map_pos (f : Rat → Rat) (x : List Rat) (h : ∀ v ∈ x, 0 ≤ f v) (a : Rat) (ha : a ∈ x)
    (hpos : 0 < f a) : 0 < sum (x.map f) := by
  induction x with
  | nil => simp at ha
  | cons b l ih =>
    have hl : ∀ v ∈ l, 0 ≤ f v := fun v hv => h v (List.mem_cons_of_mem b hv)
    rcases List.mem_cons.mp ha with rfl | hal
    · exact add_pos_of_pos_of_nonneg hpos (sum_map_nonneg f l hl)
    · exact add_pos_of_nonneg_of_pos (h b List.mem_cons_self) (ih hl hal)

/-- the Spec shares no function with the model; its own `sum` is the model's -/
theorem sum_eq_spec (x : List Rat) : Spec.C14.sum x = sum x := by
  induction x with
  | nil => rfl
  | cons a l ih => simp [Spec.C14.sum, sum, ih]

theorem mean?_cons (a : Rat) (l : List Rat) :
    mean? (a :: l) = some (sum (a :: l) / (((a :: l).length : Nat) : Rat)) := rfl

theorem mean?_ne_nil {x : List Rat} (h : x ≠ []) :
    mean? x = some (sum x / (x.length : Rat)) := by
  cases x with
  | nil => exact absurd rfl h
  | cons a l => rfl

theorem length_cast_ne_zero {x : List Rat} (h : x ≠ []) : ((x.length : Nat) : Rat) ≠ 0 := by
  cases x with
  | nil => exact absurd rfl h
  | cons a l => exact Nat.cast_ne_zero.mpr (Nat.succ_ne_zero _)

theorem sum_centered {x : List Rat} (h : x ≠ []) :
    sum (x.map (fun v => v - sum x / (x.length : Rat))) = 0 := by
  rw [sum_map_sub, mul_div_cancel₀ _ (length_cast_ne_zero h), sub_self]

namespace Center

theorem call_frozen (s : St) (h : s.paramsSet = true) (y : List Rat) :
    call s y = (s, apply s.mean y) := by simp [call, h]

theorem call_init (x : List Rat) : call init x = (⟨true, mean? x⟩, apply (mean? x) x) := by
  simp [call, init]

theorem run_frozen (s : St) (h : s.paramsSet = true) (ys : List (List Rat)) :
    run s ys = (s, ys.map (apply s.mean)) := by
  induction ys with
  | nil => simp [run]
  | cons y ys ih => simp [run, call_frozen s h, ih]

theorem run_cons (s : St) (x : List Rat) (xs : List (List Rat)) :
    run s (x :: xs) = ((run (call s x).1 xs).1, (call s x).2 :: (run (call s x).1 xs).2) := rfl

theorem run_init (x : List Rat) (ys : List (List Rat)) :
    run init (x :: ys) = (⟨true, mean? x⟩, (x :: ys).map (apply (mean? x))) := by
  rw [run_cons, call_init, run_frozen _ rfl]
  rfl

end Center

namespace Scale

theorem call_frozen (s : St) (h : s.paramsSet = true) (y : List Rat) :
    call s y = (s, apply s.mean s.var y) := by simp [call, h]

theorem call_init (x : List Rat) :
    call init x = (⟨true, mean? x, var? x⟩, apply (mean? x) (var? x) x) := by
  simp [call, init]

theorem run_frozen (s : St) (h : s.paramsSet = true) (ys : List (List Rat)) :
    run s ys = (s, ys.map (apply s.mean s.var)) := by
  induction ys with
  | nil => simp [run]
  | cons y ys ih => simp [run, call_frozen s h, ih]

theorem run_cons (s : St) (x : List Rat) (xs : List (List Rat)) :
    run s (x :: xs) = ((run (call s x).1 xs).1, (call s x).2 :: (run (call s x).1 xs).2) := rfl

theorem run_init (x : List Rat) (ys : List (List Rat)) :
    run init (x :: ys)
      = (⟨true, mean? x, var? x⟩, (x :: ys).map (fun y => apply (mean? x) (var? x) y)) := by
  rw [run_cons, call_init, run_frozen _ rfl]
  rfl

end Scale

theorem divSqrt_pos (n : Rat) {v : Rat} (hv : 0 < v) : divSqrt n v = .quot n v := by
  rw [divSqrt, if_neg (not_lt.mpr hv.le), if_neg hv.ne']

theorem divSqrt_zero (n : Rat) :
    divSqrt n 0 = if n = 0 then .nan else if 0 < n then .posInf else .negInf := by
  rw [divSqrt, if_neg (lt_irrefl _), if_pos rfl]

theorem var?_ne_nil {x : List Rat} (h : x ≠ []) :
    var? x = some (sum (x.map (fun v => (v - sum x / (x.length : Rat)) * (v - sum x / (x.length : Rat))))
                   / (x.length : Rat)) := by
  unfold var?
  rw [mean?_ne_nil h]
  simp only
  rw [mean?_ne_nil (by simpa using h)]
  simp

theorem var_pos {x : List Rat} {a b : Rat} (ha : a ∈ x) (hb : b ∈ x) (hab : a ≠ b) :
    0 < sum (x.map (fun v => (v - sum x / (x.length : Rat)) * (v - sum x / (x.length : Rat))))
          / (x.length : Rat) := by
  have hne : x ≠ [] := by intro h; simp [h] at ha
  have hn : (0 : Rat) < (x.length : Rat) :=
    lt_of_le_of_ne (Nat.cast_nonneg _) (length_cast_ne_zero hne).symm
  apply div_pos _ hn
  set m := sum x / (x.length : Rat)
  have hsq : ∀ v ∈ x, 0 ≤ (v - m) * (v - m) := fun v _ => mul_self_nonneg _
  by_cases ham : a = m
  · have hbm : b ≠ m := fun h => hab (ham.trans h.symm)
    exact sum_map_pos _ x hsq b hb (mul_self_pos.mpr (sub_ne_zero.mpr hbm))
  · exact sum_map_pos _ x hsq a ha (mul_self_pos.mpr (sub_ne_zero.mpr ham))

theorem var_const {x : List Rat} {c : Rat} (hne : x ≠ []) (h : ∀ v ∈ x, v = c) :
    sum x / (x.length : Rat) = c ∧ sum (x.map (fun v => (v - c) * (v - c))) = 0 := by
  have hs : sum x = (x.length : Rat) * c := by
    have : x = x.map (fun _ => c) := by
      conv_lhs => rw [← List.map_id x]
      exact List.map_congr_left (fun v hv => by simpa using h v hv)
    rw [this, sum_map_const]; simp
  have hn := length_cast_ne_zero hne
  have hm : sum x / (x.length : Rat) = c := by rw [hs, mul_div_cancel_left₀ c hn]
  refine ⟨hm, ?_⟩
  have : x.map (fun v => (v - c) * (v - c)) = x.map (fun _ => (0 : Rat)) :=
    List.map_congr_left (fun v hv => by rw [h v hv]; ring)
  rw [this, sum_map_const]; ring

end FormulaeModel.Transforms
