import FormulaeModel.Model.Matrices
import FormulaeModel.Proofs.ExceptLemmas
/-
Unit rows and `indexOf?`; the rows of the full and the reduced treatment contrast matrices of the
evaluation model are level indicators (C04); the rows `codeRows` builds are rows of the contrast
matrix.
-/
namespace FormulaeModel.Design

theorem unitRow_length (n j : Nat) : (unitRow n j).length = n := by simp [unitRow]

theorem unitRow_get (n j k : Nat) (hk : k < n) :
    (unitRow n j)[k]'(by simp [unitRow]; exact hk) = if k = j then 1 else 0 := by
  simp [unitRow]

theorem unitRow_get? (n j k : Nat) (hk : k < n) :
    (unitRow n j)[k]? = some (if k = j then 1 else 0) := by
  simp [unitRow, hk]

theorem indexOf?_some {α} [DecidableEq α] (x : α) (xs : List α) (i : Nat)
    (h : indexOf? x xs = some i) : ∃ hi : i < xs.length, xs[i] = x := by
  unfold indexOf? at h
  simp only at h
  split at h
  · rename_i hlt
    simp only [Option.some.injEq] at h
    subst h
    refine ⟨hlt, ?_⟩
    have := List.findIdx_getElem (w := hlt)
    simpa using this
  · simp at h

theorem nodup_index_unique {α} (xs : List α) (hn : xs.Nodup) (i j : Nat) (hi : i < xs.length)
    (hj : j < xs.length) (h : xs[i] = xs[j]) : i = j :=
  (List.getElem_inj hn).mp h

theorem treatmentFull_entry (levels : List Level) (i j : Nat) (hi : i < levels.length)
    (hj : j < levels.length) :
    ((treatmentFull levels).rows[i]'(by simp [treatmentFull]; exact hi))[j]'(by
        simp [treatmentFull, unitRow]; exact hj) = if j = i then 1 else 0 := by
  simp [treatmentFull, unitRow]

theorem treatmentFull_labels (levels : List Level) :
    (treatmentFull levels).labels = levels.map Level.label := rfl

/-- "a column labelled v[l] is 1 exactly on the rows where v equals level l" (full coding) -/
theorem treatmentFull_indicator (levels : List Level) (hn : levels.Nodup) (i j : Nat)
    (hi : i < levels.length) (hj : j < levels.length) :
    ((treatmentFull levels).rows[i]'(by simp [treatmentFull]; exact hi))[j]'(by
        simp [treatmentFull, unitRow]; exact hj) = if levels[i] = levels[j] then 1 else 0 := by
  rw [treatmentFull_entry levels i j hi hj]
  by_cases h : j = i
  · subst h; simp
  · have : levels[i] ≠ levels[j] := fun he => h (nodup_index_unique levels hn i j hi hj he).symm
    simp [h, this]

/-- the matrix `treatmentReduced` builds once the reference index `r` is known -/
def reducedRows (n r : Nat) : List (List Int) :=
  (List.range n).map (fun i =>
    if i < r then unitRow (n - 1) i else if i == r then List.replicate (n - 1) 0
    else unitRow (n - 1) (i - 1))

theorem treatmentReduced_ok (reference : Option Level) (levels : List Level) (cm : ContrastMatrix)
    (h : treatmentReduced reference levels = .ok cm) :
    ∃ r, (reference = none ∧ r = 0 ∨ ∃ l, reference = some l ∧ indexOf? l levels = some r) ∧
      cm.rows = reducedRows levels.length r ∧
      cm.labels = ((levels.take r) ++ (levels.drop (r + 1))).map Level.label := by
  unfold treatmentReduced at h
  cases reference with
  | none =>
    simp only [bind, Except.bind, pure, Except.pure] at h
    refine ⟨0, Or.inl ⟨rfl, rfl⟩, ?_⟩
    cases h
    simp [reducedRows]
  | some l =>
    simp only [bind, Except.bind, pure, Except.pure] at h
    split at h
    · rename_i i hi
      simp only [Except.ok.injEq] at h
      subst h
      exact ⟨i, Or.inr ⟨l, rfl, hi⟩, by simp [reducedRows], by simp [List.map_take, List.map_drop]⟩
    · simp at h

/-- column `j` stands for level `j` below the reference and level `j + 1` from the reference on -/
theorem reducedRows_entry (n r i j : Nat) (hi : i < n) (hj : j < n - 1) :
    ((reducedRows n r)[i]'(by simp [reducedRows]; exact hi))[j]? =
      some (if i = (if j < r then j else j + 1) then 1 else 0) := by
  simp only [reducedRows, List.getElem_map, List.getElem_range, beq_iff_eq,
    apply_ite (fun l : List Int => l[j]?), unitRow_get? _ _ _ hj, List.getElem?_replicate, hj,
    if_true]
  -- row `i` is `e_i` above the reference, zero at it, `e_(i-1)` below: compare with `j < r` / `j ≥ r`
  grind

/-- "a column labelled v[l] is 1 exactly on the rows where v equals level l" (reduced coding) -/
theorem reduced_indicator (levels : List Level) (hn : levels.Nodup) (r i j : Nat)
    (hr : r < levels.length) (hi : i < levels.length) (hj : j < levels.length - 1) :
    ((reducedRows levels.length r)[i]'(by simp [reducedRows]; exact hi))[j]? =
      some (if levels[i] = (levels.eraseIdx r)[j]'(by rw [List.length_eraseIdx]; simp [hr]; exact hj)
            then 1 else 0) := by
  rw [reducedRows_entry _ _ _ _ hi hj, List.getElem_eraseIdx]
  split <;> simp only [List.getElem_inj hn]

/-- every row of `codeRows` is the contrast-matrix row of the position of the value -/
theorem codeRows_rows (cm : ContrastMatrix) (levels : List Level) (xs : List (Option Level)) (m : Matrix)
    (h : codeRows cm levels xs = .ok m) :
    m.length = xs.length ∧ ∀ r (hr : r < m.length), ∃ l g, xs[r]? = some (some l) ∧
      indexOf? l levels = some g ∧ g < levels.length ∧ m[r] = rowOfInts (cm.rows.getD g []) := by
  obtain ⟨hl, hall⟩ := mapM_ok_get _ xs m h
  refine ⟨hl, ?_⟩
  intro r hr
  have hr' : r < xs.length := by omega
  have := hall r hr' hr
  cases hxi : xs[r] with
  | none => rw [hxi] at this; simp at this
  | some l =>
    rw [hxi] at this
    simp only at this
    split at this
    · rename_i g hg
      simp only [pure_ok] at this
      exact ⟨l, g, by rw [List.getElem?_eq_getElem hr', hxi], hg, (indexOf?_some l levels g hg).1, this.symm⟩
    · simp at this

theorem treatmentFull_getD (levels : List Level) (g : Nat) (hg : g < levels.length) :
    (treatmentFull levels).rows.getD g [] = unitRow levels.length g := by
  simp [treatmentFull, hg]

end FormulaeModel.Design
