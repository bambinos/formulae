import FormulaeModel.Model.Matrices
/-
The nested loops of `get_interaction_matrix` / `khatri_rao` and `itertools.product` of the labels
enumerate pairs in the same order, first factor slowest.
-/
namespace FormulaeModel.Design

abbrev LRow := List (String × Entry)

def interL (f : String → String → String) (a b : LRow) : LRow :=
  a.flatMap (fun p => b.map (fun q => (f p.1 q.1, Entry.mul p.2 q.2)))

def rowProd (rx ry : List Entry) : List Entry := rx.flatMap (fun a => ry.map (fun b => Entry.mul a b))

def labelProd (f : String → String → String) (lx ly : List String) : List String :=
  lx.flatMap (fun a => ly.map (fun b => f a b))

def colon (a b : String) : String := a ++ ":" ++ b
/-- `effect|group` for (group, effect) enumerated group-slowest -/
def bar (g l : String) : String := l ++ "|" ++ g

theorem zip_map_map {α β γ δ : Type} (f : α → γ) (g : β → δ) (xs : List α) (ys : List β) :
    List.zip (xs.map f) (ys.map g) = (List.zip xs ys).map (fun p => (f p.1, g p.2)) :=
  List.zip_map

theorem zip_labelProd_rowProd (f : String → String → String) (lx ly : List String) (rx ry : List Entry)
    (hx : lx.length = rx.length) (hy : ly.length = ry.length) :
    List.zip (labelProd f lx ly) (rowProd rx ry) = interL f (List.zip lx rx) (List.zip ly ry) := by
  induction lx generalizing rx with
  | nil => cases rx <;> simp_all [labelProd, rowProd, interL]
  | cons a lx ih =>
    cases rx with
    | nil => simp at hx
    | cons b rx =>
      simp only [List.length_cons, Nat.add_right_cancel_iff] at hx
      simp only [labelProd, rowProd, interL, List.flatMap_cons, List.zip_cons_cons] at *
      rw [List.zip_append (by simp [hy])]
      rw [ih rx hx]
      congr 1
      rw [zip_map_map]

theorem length_flatMap_map {α β γ : Type} (f : α → β → γ) (a : List α) (b : List β) :
    (a.flatMap (fun x => b.map (f x))).length = a.length * b.length := by
  induction a with
  | nil => simp
  | cons x a ih =>
    simp only [List.flatMap_cons, List.length_append, List.length_map, List.length_cons, ih]
    rw [Nat.add_mul, Nat.one_mul, Nat.add_comm]

theorem length_labelProd (f : String → String → String) (lx ly : List String) :
    (labelProd f lx ly).length = lx.length * ly.length := length_flatMap_map f lx ly

theorem length_rowProd (rx ry : List Entry) : (rowProd rx ry).length = rx.length * ry.length :=
  length_flatMap_map Entry.mul rx ry

theorem interactionLabels_eq (x y : List String) : interactionLabels x y = labelProd colon x y := rfl

def reduceRows : List (List Entry) → List Entry
  | [] => []
  | r :: rs => rs.foldl rowProd r

theorem zip_foldl_products (f : String → String → String) (comps : List (List String × List Entry))
    (accL : List String) (accR : List Entry) (hacc : accL.length = accR.length)
    (h : ∀ c ∈ comps, c.1.length = c.2.length) :
    List.zip ((comps.map (·.1)).foldl (labelProd f) accL) ((comps.map (·.2)).foldl rowProd accR)
      = comps.foldl (fun acc c => interL f acc (List.zip c.1 c.2)) (List.zip accL accR)
    ∧ ((comps.map (·.1)).foldl (labelProd f) accL).length
      = ((comps.map (·.2)).foldl rowProd accR).length := by
  induction comps generalizing accL accR with
  | nil => simp [hacc]
  | cons c comps ih =>
    have hc := h c (by simp)
    have hlen : (labelProd f accL c.1).length = (rowProd accR c.2).length := by
      rw [length_labelProd, length_rowProd, hacc, hc]
    have := ih (labelProd f accL c.1) (rowProd accR c.2) hlen (fun c' hc' => h c' (by simp [hc']))
    simp only [List.map_cons, List.foldl_cons]
    rw [← zip_labelProd_rowProd f accL c.1 accR c.2 hacc hc]
    exact this

theorem interactionMatrix_row (x y : Matrix) (r : Nat) (hx : r < x.length) (hy : r < y.length) :
    (interactionMatrix x y)[r]'(by simp [interactionMatrix]; omega) = rowProd x[r] y[r] := by
  simp [interactionMatrix, rowProd]

theorem interactionMatrix_length (x y : Matrix) :
    (interactionMatrix x y).length = min x.length y.length := by
  simp [interactionMatrix]

theorem flatMap_map_getElem? {α β γ : Type} (f : α → β → γ) (a : List α) (b : List β) (i k : Nat)
    (hi : i < a.length) (hk : k < b.length) :
    (a.flatMap (fun x => b.map (f x)))[i * b.length + k]? = some (f a[i] b[k]) := by
  induction a generalizing i with
  | nil => simp at hi
  | cons x a ih =>
    simp only [List.flatMap_cons]
    cases i with
    | zero =>
      simp only [Nat.zero_mul, Nat.zero_add, List.getElem_cons_zero]
      rw [List.getElem?_append_left (by simp [hk])]
      simp [hk]
    | succ i =>
      have hi' : i < a.length := by simpa using hi
      rw [List.getElem?_append_right (by simp; rw [Nat.add_mul]; omega)]
      simp only [List.length_map, List.getElem_cons_succ]
      have : (i + 1) * b.length + k - b.length = i * b.length + k := by
        rw [Nat.add_mul]; omega
      rw [this]
      exact ih i hi'

theorem rowProd_getElem? (a b : List Entry) (i k : Nat) (hi : i < a.length) (hk : k < b.length) :
    (rowProd a b)[i * b.length + k]? = some (Entry.mul a[i] b[k]) :=
  flatMap_map_getElem? Entry.mul a b i k hi hk

theorem labelProd_getElem? (f : String → String → String) (a b : List String) (i k : Nat)
    (hi : i < a.length) (hk : k < b.length) :
    (labelProd f a b)[i * b.length + k]? = some (f a[i] b[k]) :=
  flatMap_map_getElem? f a b i k hi hk

end FormulaeModel.Design
