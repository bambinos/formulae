import FormulaeModel.Proofs.ShapeTerm
import FormulaeModel.Proofs.PipelineStages
import FormulaeModel.Proofs.EncodingRun
/-
Rows and widths for the whole of `design_matrices` (Model/Pipeline.lean): the frame left by the
missing-value step is rectangular, every evaluated term of the coded family has a component, hence
every block has one row per row of that frame and one width.
-/
namespace FormulaeModel.Design

theorem wellFormed_of_const (g : Frame) (k : Nat) (h : ∀ c ∈ g, c.cells.length = k) :
    g.wellFormed = true := by
  cases g with
  | nil => rfl
  | cons c g =>
    simp only [Frame.wellFormed, Frame.nrows, List.all_eq_true, beq_iff_eq]
    intro c' hc'
    rw [h c' hc', h c (by simp)]

theorem wellFormed_cells (f : Frame) (hwf : f.wellFormed = true) : ∀ c ∈ f, c.cells.length = f.nrows := by
  simp only [Frame.wellFormed, List.all_eq_true, beq_iff_eq] at hwf
  exact hwf

theorem kept_length_congr {α β : Type} (a : List α) (b : List β) (keep : List Bool)
    (h : a.length = b.length) : (NA.kept a keep).length = (NA.kept b keep).length := by
  induction a generalizing b keep with
  | nil =>
    cases b with
    | nil => simp [NA.kept]
    | cons => simp at h
  | cons x a ih =>
    cases b with
    | nil => simp at h
    | cons y b =>
      cases keep with
      | nil => simp [NA.kept]
      | cons k keep =>
        have := ih b keep (by simpa using h)
        simp only [NA.kept] at this ⊢
        cases k <;> simp [this]

theorem keepRows_wellFormed (g : Frame) (k : Nat) (keep : List Bool) (h : ∀ c ∈ g, c.cells.length = k) :
    (NA.keepRows g keep).wellFormed = true := by
  -- how many cells a mask keeps depends only on the column's length: compare with `k` units
  apply wellFormed_of_const _ (NA.kept (List.replicate k ()) keep).length
  intro c hc
  simp only [NA.keepRows, List.mem_map] at hc
  obtain ⟨c0, hc0, rfl⟩ := hc
  exact kept_length_congr _ _ _ (by simp [h c0 hc0])

/-- all rows: nothing missing, or `pass`; some dropped: `drop` -/
theorem naStep_ok (actions : List String) (action : String) (used : List String) (f f' : Frame)
    (h : NA.naStep actions action used f = .ok f') :
    f' = NA.selectCols used f ∨ ∃ keep, f' = NA.keepRows (NA.selectCols used f) keep := by
  unfold NA.naStep at h
  exact of_ite_eq h nofun fun h => of_ite_eq h nofun fun h => of_ite_eq h
    (fun h => of_ite_eq h (fun h => .inl (Except.ok.inj h).symm) fun h => of_ite_eq h
      (fun h => of_ite_eq h nofun fun h => .inr ⟨_, (Except.ok.inj h).symm⟩) nofun)
    (fun h => .inl (Except.ok.inj h).symm)

theorem naStep_wellFormed (actions : List String) (action : String) (used : List String)
    (f f' : Frame) (hwf : f.wellFormed = true) (h : NA.naStep actions action used f = .ok f') :
    f'.wellFormed = true := by
  have hsel : ∀ c ∈ NA.selectCols used f, c.cells.length = f.nrows :=
    fun c hc => wellFormed_cells f hwf c (List.mem_filter.1 hc).1
  rcases naStep_ok _ _ _ _ _ h with rfl | ⟨keep, rfl⟩
  · exact wellFormed_of_const _ _ hsel
  · exact keepRows_wellFormed _ _ _ hsel

end FormulaeModel.Design

namespace FormulaeModel.Encoding

theorem shape_run_comps (b : Bool) (ts : List TermDesc) (c : List CodedTerm) (h : run b ts = .ok c) :
    ∀ ct ∈ designTerms c, ct.2 = [] → ct.1 = "Intercept" := by
  intro ct hct hnil
  obtain ⟨t, -, hname, hcomps⟩ := run_origin h ct hct
  rw [hname]
  cases t with
  | intercept => rfl
  | term _ _ => rw [hnil] at hcomps; cases hcomps

end FormulaeModel.Encoding

namespace FormulaeModel.Pipeline
open FormulaeModel.Design

theorem liftE_ok {α : Type} (x : Design.M α) (a : α) : liftE x = .ok a ↔ x = .ok a := by
  cases x <;> simp [liftE]

/-- no evaluated term is without components (a `Term` of the library has at least one); the
common terms need no mention: none without components is evaluated (`commonPart_trained`) -/
def Built.termsNonempty (b : Built) : Bool :=
  (match b.response with
   | none => true
   | some out => !out.st.comps.isEmpty) && b.group.all (fun g => g.st.nonempty)

structure Built.Shaped (b : Built) : Prop where
  frame : b.frame.wellFormed = true
  response : ∀ out, b.response = some out → ∃ k, out.Shaped b.frame.nrows k
  common : ∀ p ∈ b.common, (p.2 = none → p.1 = "Intercept") ∧
    ∀ out, p.2 = some out → ∃ k, k ≠ 0 ∧ out.Shaped b.frame.nrows k
  group : ∀ g ∈ b.group, ∃ ne, g.Shaped b.frame.nrows ne

theorem built_shaped (env' : Env) (hwf' : env'.frame.wellFormed = true)
    (hn' : env'.namesSized env'.frame.nrows = true) (atoms : List (String × Expr))
    (response : Option TermOut) (common : List (String × Option TermOut)) (group : List GroupOut)
    (hresp : ∀ out, response = some out → ∃ spec, trainTerm env' atoms spec false true = .ok out)
    (hcommon : ∀ p ∈ common, (p.2 = none → p.1 = "Intercept") ∧
      ∀ out, p.2 = some out → ∃ spec : TermSpec, spec.comps ≠ [] ∧
        trainTerm env' atoms spec false false = .ok out)
    (hgroup : ∀ g ∈ group, ∃ spec, trainGroup env' atoms spec = .ok g) :
    Built.Shaped ⟨env'.frame, response, common, group⟩ := by
  refine ⟨hwf', ?_, ?_, ?_⟩
  · intro out hout
    obtain ⟨spec, hspec⟩ := hresp out hout
    exact ⟨_, trainTerm_shape env' hwf' hn' atoms spec false true out hspec⟩
  · intro p hp
    refine ⟨(hcommon p hp).1, ?_⟩
    intro out hout
    obtain ⟨spec, hne, hspec⟩ := (hcommon p hp).2 out hout
    refine ⟨spec.comps.length, ?_, trainTerm_shape env' hwf' hn' atoms spec false false out hspec⟩
    intro h0
    exact hne (List.length_eq_zero_iff.1 h0)
  · intro g hg
    obtain ⟨spec, hspec⟩ := hgroup g hg
    exact ⟨_, trainGroup_shape env' hwf' hn' atoms spec g hspec⟩

theorem commonPart_trained (env : Env) (atoms : List (String × Expr)) (common : List Terms.CTerm)
    (cm : List (String × Option TermOut)) (h : commonPart env atoms common = .ok cm) :
    ∀ p ∈ cm, (p.2 = none → p.1 = "Intercept") ∧
      ∀ out, p.2 = some out → ∃ spec : TermSpec, spec.comps ≠ [] ∧
        trainTerm env atoms spec false false = .ok out := by
  simp only [commonPart, codedOf, bind_ok] at h
  obtain ⟨descs, -, coded, hcoded, h⟩ := h
  split at hcoded <;> cases hcoded
  rename_i c hrun
  refine mapM_forall _ _ _ _ h fun ct hct p hp => ?_
  split at hp
  · rename_i hcond
    simp only [pure_ok] at hp
    subst hp
    simp only [Bool.and_eq_true, beq_iff_eq] at hcond
    exact ⟨fun _ => hcond.2, nofun⟩
  · rename_i hcond
    simp only [bind_ok, pure_ok, liftE_ok] at hp
    obtain ⟨out, hout, rfl⟩ := hp
    refine ⟨nofun, ?_⟩
    rintro _ ⟨rfl⟩
    refine ⟨_, ?_, hout⟩
    intro hnil
    have hnil' : ct.2 = [] := List.map_eq_nil_iff.1 hnil
    exact hcond (by simp [hnil', Encoding.shape_run_comps _ _ _ hrun ct hct hnil'])

theorem groupPart_trained (env : Env) (atoms : List (String × Expr)) (group : List Terms.GTerm)
    (gs : List GroupOut) (h : groupPart env atoms group = .ok gs) :
    ∀ g ∈ gs, ∃ spec, trainGroup env atoms spec = .ok g := by
  refine mapM_forall _ _ _ _ h fun g _ y h => ?_
  unfold groupOne at h
  -- a stage that fails gives no result; otherwise the result is `trainGroup` on the specs found
  cases hf : specOf g.factor true with
  | none => rw [hf] at h; cases h
  | some fs =>
    rw [hf] at h
    cases he : g.expr with
    | intercept => rw [he] at h; exact ⟨_, (liftE_ok _ _).1 h⟩
    | negIntercept => rw [he] at h; cases h
    | term cs => rw [he] at h; exact ⟨_, (liftE_ok _ _).1 h⟩

theorem responsePart_trained (env : Env) (atoms : List (String × Expr)) (resp : Option (List Terms.Atom))
    (out : TermOut) (h : responsePart env atoms resp = .ok (some out)) :
    ∃ spec, trainTerm env atoms spec false true = .ok out := by
  unfold responsePart at h
  split at h <;> simp only [bind_ok, pure_ok, liftE_ok] at h
  · cases h
  · obtain ⟨o, ho, h⟩ := h
    cases h
    exact ⟨_, ho⟩

/-- every block of a successful run is a term or group-specific term trained on the frame the
missing-value step left, however the used variables are read off the formula -/
theorem designMatricesWith_trained (usedOf : Expr → Terms.ModelV → List String) (table : Parser.Table)
    (ops : Resolver.OpTable) (actions : List String) (formula : String) (env : Env) (naAction : String)
    (built : Built) (h : designMatricesWith usedOf table ops actions formula env naAction = .ok built) :
    ∃ used atoms, NA.naStep actions naAction used env.frame = .ok built.frame ∧
      (∀ out, built.response = some out →
        ∃ spec, trainTerm ⟨built.frame, env.names⟩ atoms spec false true = .ok out) ∧
      (∀ p ∈ built.common, (p.2 = none → p.1 = "Intercept") ∧
        ∀ out, p.2 = some out → ∃ spec : TermSpec, spec.comps ≠ [] ∧
          trainTerm ⟨built.frame, env.names⟩ atoms spec false false = .ok out) ∧
      (∀ g ∈ built.group, ∃ spec, trainGroup ⟨built.frame, env.names⟩ atoms spec = .ok g) := by
  obtain ⟨_, e, m, -, -, -, hna, hp, hr⟩ := designMatricesWith_ok h
  simp only [predictors, bind_ok, pure_ok, Prod.mk.injEq] at hp
  obtain ⟨cm, hcm, gs, hgs, rfl, rfl⟩ := hp
  exact ⟨_, atomTable e, hna, fun out hout => responsePart_trained _ _ _ out (hout ▸ hr),
    commonPart_trained _ _ _ _ hcm, groupPart_trained _ _ _ _ hgs⟩

theorem designMatrices_shape (table : Parser.Table) (ops : Resolver.OpTable) (actions : List String)
    (formula : String) (env : Env) (naAction : String) (built : Built)
    (hwf : env.frame.wellFormed = true) (hn : env.namesScalar = true)
    (h : designMatrices table ops actions formula env naAction = .ok built) : built.Shaped := by
  obtain ⟨used, atoms, hna, hresp, hcommon, hgroup⟩ := designMatricesWith_trained _ _ _ _ _ _ _ _ h
  exact built_shaped ⟨built.frame, env.names⟩ (naStep_wellFormed _ _ _ _ _ hwf hna)
    (Env.namesSized_of_scalar _ _ hn) atoms _ _ _ hresp hcommon hgroup
end FormulaeModel.Pipeline
